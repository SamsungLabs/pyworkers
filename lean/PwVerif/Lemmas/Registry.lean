import PwVerif.Model.Registry
/-! Invariant over every operation history (`Inv`): the registry has no duplicates, every live worker is registered, registered
    and live workers have been created; every operation keeps it (`inv_step`). From it: what `active_children()` yields is the
    live workers (`mem_active`), each once, so a permutation of them (`active_perm`). Then what entering a worker
    (`dead_restart_le`, `dead_create_le`) and a completion (`dead_finish_le`) do to the number of dead entries of the registry. -/
namespace PwVerif.C19
open PwVerif.Registry

structure Inv (s : St) : Prop where
  regNodup   : s.reg.Nodup
  aliveNodup : s.alive.Nodup
  aliveReg   : ∀ w ∈ s.alive, w ∈ s.reg
  regBound   : ∀ w ∈ s.reg, w < s.next
  aliveBound : ∀ w ∈ s.alive, w < s.next

theorem Inv.of {s : St} (h1 : s.reg.Nodup) (h2 : s.alive.Nodup) (h3 : ∀ w ∈ s.alive, w ∈ s.reg)
    (h4 : ∀ w ∈ s.reg, w < s.next) : Inv s :=
  ⟨h1, h2, h3, h4, fun w hw => h4 w (h3 w hw)⟩

theorem nodup_snoc {l : List Nat} {w : Nat} (h : l.Nodup) (hw : w ∉ l) : (l ++ [w]).Nodup :=
  (List.perm_append_singleton w l).nodup_iff.mpr (List.nodup_cons.mpr ⟨hw, h⟩)

theorem mem_register {reg : List Nat} {w x : Nat} : x ∈ register reg w ↔ x ∈ reg ∨ x = w := by
  unfold register
  split
  · exact ⟨Or.inl, fun h => h.elim id (· ▸ ‹w ∈ reg›)⟩
  · simp

theorem register_nodup {reg : List Nat} {w : Nat} (h : reg.Nodup) : (register reg w).Nodup := by
  unfold register
  split
  · exact h
  · exact nodup_snoc h ‹w ∉ reg›

/-- Constructing a worker that runs is numbering it and then what `restart` does to an existing
    worker (`restart` re-runs `__init__`). -/
theorem step_create_run (s : St) (h : s.next ∉ s.alive) :
    (step s (.create true)).1 = (step { s with next := s.next + 1 } (.restart s.next)).1 := by
  have : s.alive.filter (· ≠ s.next) = s.alive :=
    List.filter_eq_self.mpr fun a ha => decide_eq_true fun e => h (e ▸ ha)
  simp only [step, Nat.lt_add_one, ↓reduceIte, this]

theorem inv_next {s : St} (h : Inv s) : Inv { s with next := s.next + 1 } :=
  ⟨h.1, h.2, h.3, fun w hw => Nat.lt_succ_of_lt (h.4 w hw), fun w hw => Nat.lt_succ_of_lt (h.5 w hw)⟩

theorem inv_restart {s : St} (h : Inv s) (w : Nat) : Inv (step s (.restart w)).1 := by
  simp only [step]
  split
  · rename_i hw
    refine .of (register_nodup h.1) (nodup_snoc (h.2.filter _) (by simp)) ?_ ?_
    · intro x hx
      exact mem_register.mpr ((List.mem_append.mp hx).imp
        (fun hx => h.3 x (List.mem_filter.mp hx).1) List.mem_singleton.mp)
    · intro x hx
      exact (mem_register.mp hx).elim (h.4 x) (· ▸ hw)
  · exact h

/-- `active_children()` drops from the registry what is not alive, and while every live worker is
    registered it drops nothing else. -/
theorem mem_active {s : St} (h : ∀ w ∈ s.alive, w ∈ s.reg) {x : Nat} :
    x ∈ (step s .active).2 ↔ x ∈ s.alive :=
  ⟨fun hx => of_decide_eq_true (List.mem_filter.mp hx).2,
   fun hx => List.mem_filter.mpr ⟨h x hx, decide_eq_true hx⟩⟩

theorem inv_step (s : St) (op : Op) (h : Inv s) : Inv (step s op).1 := by
  have ⟨h1, h2, h3, h4, h5⟩ := h
  cases op with
  | create run =>
    cases run
    · exact inv_next h
    · rw [step_create_run s fun hn => Nat.lt_irrefl _ (h5 _ hn)]
      exact inv_restart (inv_next h) _
  | finish w =>
    exact .of h1 (h2.filter _) (fun x hx => h3 x (List.mem_filter.mp hx).1) h4
  | restart w => exact inv_restart h w
  | active =>
    exact .of (h1.filter _) h2 (fun _ => (mem_active h3).mpr) fun x hx => h4 x (List.mem_filter.mp hx).1
  | autoclose =>
    exact .of (h1.filter _) (h2.filter _) (fun _ hx => (mem_active h3).mpr (List.mem_filter.mp hx).1)
      fun x hx => h4 x (List.mem_filter.mp hx).1

theorem inv_init : Inv ({} : St) := ⟨.nil, .nil, nofun, nofun, nofun⟩

theorem inv_run (s : St) (ops : List Op) (h : Inv s) : Inv (run s ops).1 := by
  induction ops generalizing s with
  | nil => exact h
  | cons op ops ih => exact ih _ (inv_step s op h)

theorem active_perm {s : St} (h : Inv s) : (step s .active).2.Perm s.alive :=
  (List.perm_ext_iff_of_nodup (h.regNodup.filter _) h.aliveNodup).mpr fun _ => mem_active h.aliveReg

def finishes : List Op → Nat
  | [] => 0
  | .finish _ :: ops => finishes ops + 1
  | _ :: ops => finishes ops

def noPrune : List Op → Bool
  | [] => true
  | .active :: _ => false
  | .autoclose :: _ => false
  | _ :: ops => noPrune ops

theorem noPrune_cons {op : Op} {ops : List Op} (h : noPrune (op :: ops) = true) :
    noPrune [op] = true ∧ noPrune ops = true := by
  cases op <;> simp_all [noPrune]

theorem finishes_cons (op : Op) (ops : List Op) : finishes (op :: ops) = finishes [op] + finishes ops := by
  cases op <;> simp [finishes] <;> omega

/-- Registering a worker that counts as alive afterwards, while nobody stops being alive, adds
    nothing dead to the registry. -/
theorem countP_register_le {reg alive alive' : List Nat} {w : Nat} (hw : w ∈ alive')
    (hsub : ∀ x ∈ alive, x ∈ alive') :
    (register reg w).countP (fun x => decide (x ∉ alive')) ≤ reg.countP (fun x => decide (x ∉ alive)) := by
  have : reg.countP (fun x => decide (x ∉ alive')) ≤ reg.countP (fun x => decide (x ∉ alive)) :=
    List.countP_mono_left fun x _ hx => decide_eq_true fun hx' => of_decide_eq_true hx (hsub x hx')
  unfold register
  split
  · exact this
  · simpa [hw] using this

theorem dead_restart_le (s : St) (w : Nat) : dead (step s (.restart w)).1 ≤ dead s := by
  simp only [step]
  split
  · exact countP_register_le (by simp) fun x hx => by by_cases e : x = w <;> simp [e, hx]
  · exact Nat.le_refl _

theorem dead_create_le (s : St) (r : Bool) : dead (step s (.create r)).1 ≤ dead s := by
  cases r
  · exact Nat.le_refl _
  · exact countP_register_le (List.mem_append_right _ (.head _)) fun x => List.mem_append_left _

theorem countP_or_le (p q : Nat → Bool) (l : List Nat) :
    l.countP (fun x => p x || q x) ≤ l.countP p + l.countP q := by
  induction l with
  | nil => exact Nat.le_refl _
  | cons a l ih =>
    simp only [List.countP_cons]
    cases p a <;> cases q a <;> simp <;> omega

/-- A completion adds at most the finished worker itself to the dead entries, and the registry
    holds it at most once. -/
theorem dead_finish_le (s : St) (w : Nat) (h : s.reg.Nodup) :
    dead (step s (.finish w)).1 ≤ dead s + 1 :=
  calc dead (step s (.finish w)).1
      = s.reg.countP (fun x => decide (x ∉ s.alive) || x == w) :=
        List.countP_congr fun x _ => by by_cases e : x = w <;> simp [step, e]
    _ ≤ dead s + s.reg.count w := countP_or_le _ _ _
    _ ≤ dead s + 1 := Nat.add_le_add_left (List.nodup_iff_count.mp h w) _

end PwVerif.C19
