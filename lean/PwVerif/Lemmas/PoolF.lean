import PwVerif.Lemmas.PoolT
import PwVerif.Lemmas.PoolK
/-!
The re-dispatch loop of `handle_death` terminates for **every** user `enqueue_fn` and every retry policy.

A worker that did not take what it was offered is skipped for the rest of the round (without that the loop re-offers a
refused input to the same idle worker for ever). Variant of the model's loop (`settle`), lexicographic in (workers not
yet declared dead, idle workers not yet skipped):

  `variant s skip = nc s * (n + 1) + nAvail s skip`      (`n` = number of workers)

Every round either hands the input to an idle worker (it stops being idle), or is refused (the worker joins `skip`),
or finds the worker dead (`nc` drops; the nested loop and the rest of this one start from a smaller first component).
`handleDeath` supplies `(n + 1) * (n + 1)` fuel, which bounds the variant, so the fuel is never exhausted.
-/
namespace PwVerif.Pool

def availP (s : St) (skip : List Nat) (j : Nat) : Bool := isIdle (getW s j) && !skip.contains j
def nAvail (s : St) (skip : List Nat) : Nat := (List.range s.ws.length).countP (availP s skip)
def variant (s : St) (skip : List Nat) : Nat := nc s * (s.ws.length + 1) + nAvail s skip

theorem nAvail_le_length (s : St) (skip : List Nat) : nAvail s skip ≤ s.ws.length := by
  have := List.countP_le_length (p := availP s skip) (l := List.range s.ws.length)
  simpa [nAvail] using this

theorem avail_counted {s : St} {skip : List Nat} {w : Nat} (h : w ∈ avail s skip) :
    w < s.ws.length ∧ availP s skip w = true := by
  obtain ⟨hi, hs⟩ := List.mem_filter.mp h
  obtain ⟨hw, hidle⟩ := mem_idle_isIdle hi
  exact ⟨hw, by simp only [availP, hidle, hs, Bool.and_self]⟩

theorem countP_lt_of (l : List Nat) (p q : Nat → Bool) (hpq : ∀ x ∈ l, q x = true → p x = true)
    (w : Nat) (hw : w ∈ l) (hp : p w = true) (hq : q w = false) : l.countP q < l.countP p := by
  obtain ⟨l1, l2, rfl⟩ := List.append_of_mem hw
  have h1 : l1.countP q ≤ l1.countP p := List.countP_mono_left fun x hx => hpq x (by simp [hx])
  have h2 : l2.countP q ≤ l2.countP p := List.countP_mono_left fun x hx => hpq x (by simp [hx])
  simp only [List.countP_append, List.countP_cons, hp, hq, if_true, Bool.false_eq_true, if_false]
  omega

theorem nAvail_lt {s t : St} {skip skip' : List Nat} {w : Nat} (h : Le s t) (hsub : ∀ j, j ∈ skip → j ∈ skip')
    (hw : w < s.ws.length) (hws : availP s skip w = true) (hwt : availP t skip' w = false) :
    nAvail t skip' < nAvail s skip := by
  unfold nAvail
  rw [h.len]
  refine countP_lt_of _ _ _ (fun j _ hj => ?_) w (List.mem_range.mpr hw) hws hwt
  simp only [availP, Bool.and_eq_true, Bool.not_eq_true'] at hj ⊢
  refine ⟨?_, ?_⟩
  · cases hsi : isIdle (getW s j) with
    | true => rfl
    | false => have := h.cn j hsi; rw [CN, hj.1] at this; cases this
  · cases hc : skip.contains j with
    | false => rfl
    | true =>
      have : skip'.contains j = true := by simpa using hsub j (by simpa using hc)
      rw [this] at hj; cases hj.2

theorem variant_lt {s t : St} {skip skip' : List Nat} (hlen : t.ws.length = s.ws.length)
    (h : nc t < nc s ∨ (nc t = nc s ∧ nAvail t skip' < nAvail s skip)) : variant t skip' < variant s skip := by
  unfold variant
  rw [hlen]
  rcases h with h | ⟨h1, h2⟩
  · have h3 := nAvail_le_length t skip'
    have h4 := Nat.mul_le_mul_right (s.ws.length + 1) (Nat.succ_le_of_lt h)
    rw [Nat.succ_mul] at h4
    omega
  · rw [h1]; omega

/-- the fuel `handleDeath` supplies -/
theorem variant_le (s : St) (skip : List Nat) : variant s skip ≤ (s.ws.length + 1) * (s.ws.length + 1) := by
  have h1 := nAvail_le_length s skip
  have h2 : nc s ≤ s.ws.length := List.countP_le_length
  have h3 := Nat.mul_le_mul_right (s.ws.length + 1) h2
  rw [Nat.add_mul (s.ws.length) 1]
  unfold variant
  omega

section
variable {c : Cfg} {pick : List Nat → Option Nat}

/-- the fuel is never exhausted: `err` is untouched by the loop -/
theorem settle_err (hp : PickOK pick) (fuel : Nat) (skip : List Nat) (s : St)
    (hv : variant s skip ≤ fuel) : (settle c pick fuel skip s).err = s.err := by
  -- (the cases of `settle` are listed at `settle_run`, Lemmas/PoolSteps.lean)
  fun_induction settle c pick fuel skip s with
  | case1 | case2 | case4 | case5 => rfl
  | case3 skip s _ w hpk =>
    -- an idle worker is on offer: the variant is positive
    obtain ⟨hw, ha⟩ := avail_counted (hp _ _ hpk)
    have : 0 < nAvail s skip := List.countP_pos_iff.mpr ⟨w, List.mem_range.mpr hw, ha⟩
    unfold variant at hv
    omega
  | case6 fuel skip s inp rest hr w hpk waiting s1 s' ih1 ih2 =>
    obtain ⟨hw, ha⟩ := avail_counted (hp _ _ hpk)
    have hcl := (mem_idle (mem_avail (hp _ _ hpk))).2.2
    have h0 : Le s s1 := Le.of_eq rfl (fun h => h)
    generalize hsk : (if waiting ≤ s'.retries.length then w :: skip else skip) = skip' at ih2 ⊢
    have hsub : ∀ j, j ∈ skip → j ∈ skip' := by
      subst hsk; intro j hj; split
      · exact List.mem_cons_of_mem _ hj
      · exact hj
    -- every round leaves `err` alone and lowers the variant
    suffices h : s'.err = s.err ∧ variant s' skip' < variant s skip by rw [ih2 (by omega), h.1]
    by_cases hrf : c.refuse w inp = true
    · -- refused: nothing has changed, the worker is skipped from now on
      have e : s' = { s1 with retries := inp :: rest } := if_pos hrf
      have hin : w ∈ skip' := by subst hsk; simp [e, waiting, hr]
      rw [e]
      exact ⟨rfl, variant_lt rfl (.inr ⟨rfl, nAvail_lt (Le.of_eq rfl (fun h => h)) hsub hw ha (by simp [availP, hin])⟩)⟩
    · by_cases hal : (getW s1 w).alive = true
      · -- accepted: the worker is busy now
        have e : s' = doEnqueue s1 w inp := (if_neg hrf).trans (if_pos hal)
        have hle := h0.trans (le_doEnqueue s1 w inp)
        have hcw : isIdle (getW (doEnqueue s1 w inp) w) = false := cn_doEnqueue s1 w inp hw
        rw [e]
        exact ⟨rfl, variant_lt hle.len (.inr ⟨(doEnqueue_measure s1 w inp hw).1,
          nAvail_lt hle hsub hw ha (by simp [availP, hcw])⟩)⟩
      · -- dead: one worker fewer, for the nested loop and for the rest of this one
        have e : s' = unused c (giveUp c (settle c pick fuel [] (markDead c s1 w)) w inp) inp true :=
          (if_neg hrf).trans (if_neg hal)
        have n1 : nc (markDead c s1 w) + 1 = nc s := markDead_nc c s1 w hw hcl
        have hl1 := (le_markDead c s1 w).len
        have e1 := ih1 (by have := variant_lt (s := s) (skip := skip) (skip' := []) hl1 (.inl (by omega)); omega)
        have d2 := ((settle_run (c := c) (pick := pick) fuel [] [] (markDead c s1 w)).decG (dec_low hp)).nc_le
        have hl2 := (le_settle (c := c) (pick := pick) fuel [] (markDead c s1 w)).len
        rw [e, unused_err, giveUp_err, e1, markDead_err]
        refine ⟨rfl, variant_lt ?_ (.inl (by rw [unused_nc, giveUp_nc]; omega))⟩
        rw [unused_ws, giveUp_ws, hl2, hl1]

theorem handleDeath_err (hp : PickOK pick) (s : St) (w : Nat) :
    (handleDeath c pick s w).err = s.err := by
  unfold handleDeath
  rw [settle_err hp _ [] _ (by rw [← (le_markDead c s w).len]; exact variant_le _ _), markDead_err]

/-- with the fuel never exhausted the loop ends in one of the two ways `K` needs (`settle_post`) -/
theorem redispatches_total (hn : ∀ w i, c.refuse w i = false) (hp : PickOK pick)
    (ht : PickTotal pick) : Redispatches c pick := by
  intro s w _ he
  have herr := handleDeath_err (c := c) hp s w
  unfold handleDeath at herr ⊢
  rcases settle_post hn hp ht _ [] (markDead c s w) (by intro j hj; cases hj) with h | h | h
  · exact .inl h
  · exact .inr h
  · rw [herr, he] at h; cases h

def FuelOK (s : St) : Prop := s.err ≠ some .outOfFuel

theorem mid_err (hp : PickOK pick) {F s F' t} (m : Mid c pick F s F' t) :
    t.err = s.err := by
  cases m with
  | book b =>
    cases b with
    | popRetry | popSrc | deplete | enq => rfl
    | back fr => cases fr <;> rfl
    | unused fr => rw [unused_err, giveUp_err]
  | death => exact handleDeath_err hp _ _

theorem fuelOK_mid (hp : PickOK pick) {F s F' t} (m : Mid c pick F s F' t)
    (h : FuelOK s) : FuelOK t := by
  rw [FuelOK, mid_err hp m]; exact h

theorem fuelOK_ext (hp : PickOK pick) {F s F' t} (m : Ext c pick F s F' t)
    (h : FuelOK s) : FuelOK t := by
  cases m with
  | death => rw [FuelOK, handleDeath_err hp]; exact h
  | result hw => exact (result_run [] hw).inv (P := fun _ s => FuelOK s) (fuelOK_mid hp) h
  | popEmpty => exact fun e => by cases e
  | loc => exact h

theorem fuelOK_runEvents' (hp : PickOK pick) (evs : List Ev) (s : St)
    (h : FuelOK s) : FuelOK (runEvents c pick s evs) :=
  (runEvents_run evs s).inv (P := fun _ s => FuelOK s) (fuelOK_ext hp) h

theorem fuelOK_start' (hp : PickOK pick)
    (n : Nat) (src : List Inp) (pre : List Ev) : FuelOK (start c pick n src pre) :=
  start_eq c pick n src pre ▸ (firstEnqueue_run [] _ _).inv (P := fun _ s => FuelOK s) (fuelOK_mid hp)
    (fuelOK_runEvents' hp pre _ (by simp [FuelOK, initSt]))

end

/-- (`hc` and `ht` are not needed: `fuelOK_runEvents'`) -/
theorem fuelOK_runEvents {c : Cfg} (hc : Plain c) {pick : List Nat → Option Nat} (hp : PickOK pick) (ht : PickTotal pick) :
    ∀ (evs : List Ev) (s : St), FuelOK s → FuelOK (runEvents c pick s evs) :=
  fuelOK_runEvents' hp

theorem fuelOK_start {c : Cfg} (hc : Plain c) {pick : List Nat → Option Nat} (hp : PickOK pick) (ht : PickTotal pick)
    (n : Nat) (src : List Inp) (pre : List Ev) : FuelOK (start c pick n src pre) :=
  fuelOK_start' hp n src pre

end PwVerif.Pool
