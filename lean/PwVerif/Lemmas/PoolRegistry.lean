import PwVerif.Model.PoolRegistry
/-! The registry model one operation at a time, for any configuration with the statement order and conditions that make it
    hold: the restart loop keeps the number of registered workers, the per-worker clean-up of `_close` leaves the worker dead,
    an interrupted `_close` leaves an open pool as it was. -/
namespace PwVerif.C09
open PwVerif.PoolRegistry

theorem restartLoop_length (cfg : Cfg) (h1 : cfg.restartBeforeForget = true) (h2 : cfg.registersNew = true)
    (done todo : Reg) (outs : List RestartOutcome) :
    (restartLoop cfg done todo outs).1.length = done.length + todo.length := by
  fun_induction restartLoop cfg done todo outs with
  | case1 | case2 => simp
  | case3 done w rest newId outs w' ih =>
    -- the new incarnation is registered in place of the old one
    simp [h2] at ih ⊢
    omega
  | case4 =>
    -- the worker that could not be stopped had not been forgotten yet
    simp [h1]

theorem cleanupWorker_dead (cfg : Cfg) (hg : cfg.closeTerminatesIf = true) (hp : cfg.closePassesForce = true)
    (force : Option Bool) (hf : force ≠ some false) (graceful : Bool) (w : W) :
    (cleanupWorker cfg force graceful w).alive = false := by
  fun_cases cleanupWorker cfg force graceful w
  case case1 h => simpa using h
  -- the two branches that leave a live stuck worker as it is cannot be taken:
  case case4 eff h =>
    -- `terminate` is called with force `True` (given or the default)
    rcases force with _ | _ | _ <;> simp_all [eff]
  case case5 h =>
    -- forced termination was not disabled, so `terminate` is called
    simp_all
  all_goals rfl

theorem closeAll_eq_map (cfg : Cfg) (hv : cfg.closeVisitsAll = true) (hg : cfg.closeGuarded = true) (force : Option Bool)
    (graceful : Bool) (reg : Reg) : closeAll cfg force graceful reg = reg.map (cleanupWorker cfg force graceful) := by
  simp [closeAll, hv, hg]

/-- `k` attempts at `close()`, each interrupted while it waits for the clean-up threads -/
def interruptedTimes (cfg : Cfg) : Nat → PoolSt → PoolSt
  | 0, s => s
  | k + 1, s => interruptedTimes cfg k (closeInterrupted cfg s)

theorem interruptedTimes_open (cfg : Cfg) (hm : cfg.closeMarksAfterJoin = true) (k : Nat) (reg : Reg) :
    interruptedTimes cfg k ⟨reg, false⟩ = ⟨reg, false⟩ := by
  induction k with
  | zero => rfl
  | succ k ih => simpa [interruptedTimes, closeInterrupted, hm] using ih

end PwVerif.C09
