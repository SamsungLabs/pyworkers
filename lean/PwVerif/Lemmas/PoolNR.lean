import PwVerif.Lemmas.PoolK
/-!
Invariants of the Pool model with **retry disabled** (`Pool(..., retry=False)`), no user `enqueue_fn`.

With retry off `handle_unused_data` discards its input and `handle_death` discards the pending list of the dead
worker; the model records both in the ghost list `St.dropped` (worker, input, had-been-handed flag). The invariant
`InvNR` says: every input is, with multiplicity, still in the source, on some pending list, in the results, or in
`dropped`; and every entry of `dropped` names a worker that the pool has declared dead - and that *is* dead
(`WDead`: the pool declares a worker dead only after an end marker / EOF / a failed enqueue, all of which only a
dead worker produces). The retry list stays empty, so `handle_death` never enters its loop and nothing here depends
on the choice of the idle worker.
-/
namespace PwVerif.Pool

structure NoRetry (c : Cfg) : Prop where
  retry : c.retry = false
  rr : c.returnResults = true
  noFn : ∀ w i, c.refuse w i = false

/-- facts that tie the pool's view of a worker to the worker's real state -/
structure WDead (x : Worker) : Prop where
  closed_dead : x.closed = true → x.alive = false
  eof_dead : x.eof = true → x.alive = false
  marker_dead : Msg.endMarker ∈ x.chan → x.alive = false

def dropCount (i : Inp) (s : St) : Nat := (s.dropped.map (fun d => d.inp)).count i

structure InvNR (src0 F : List Inp) (s : St) : Prop where
  ws : ∀ x ∈ s.ws, WInv x ∧ WDead x
  pending : s.pending = (ppwLen s : Int)
  cons : ∀ i, src0.count i = s.src.count i + ppwCount i s + s.ret.count i + dropCount i s + F.count i
  noRetries : s.retries = []
  depl : s.depleted = true → s.src = []
  noerr : s.err = none
  dead : ∀ d ∈ s.dropped, d.w < s.ws.length ∧ (getW s d.w).closed = true
  /-- an input recorded as *handed* really was accepted by that worker's `enqueue` -/
  handed : ∀ d ∈ s.dropped, d.handed = true → (d.w, d.inp) ∈ s.enq
  /-- everything on a pending list was accepted by that worker's `enqueue` -/
  ppwEnq : ∀ j, j < s.ws.length → ∀ i ∈ (getW s j).ppw, (j, i) ∈ s.enq

variable {c : Cfg} {pick : List Nat → Option Nat}

theorem unused_noRetry (hc : NoRetry c) (s : St) (inp : Inp) (fr : Bool) : unused c s inp fr = s := by
  simp [unused, hc.retry]

theorem giveUp_noRetry (hc : NoRetry c) (s : St) (w : Nat) (inp : Inp) :
    giveUp c s w inp = { s with dropped := s.dropped ++ [⟨w, inp, false⟩] } := by
  simp [giveUp, hc.retry]

theorem markDead_noRetry (hc : NoRetry c) (s : St) (w : Nat) :
    markDead c s w =
      setW { s with dropped := s.dropped ++ (getW s w).ppw.map (fun i => ⟨w, i, true⟩),
                    pending := s.pending - (getW s w).ppw.length } w
        { getW s w with ppw := [], closed := true } := by
  simp [markDead, hc.retry, getW]

theorem settle_nil (fuel : Nat) (skip : List Nat) (s : St) (hr : s.retries = []) :
    settle c pick fuel skip s = s := by
  cases fuel <;> simp [settle, hr]

theorem handleDeath_noRetry (hc : NoRetry c) (s : St) (w : Nat) (hr : s.retries = []) :
    handleDeath c pick s w = markDead c s w :=
  settle_nil _ _ _ (by rw [markDead_noRetry hc]; exact hr)

theorem redispatches_nr (hc : NoRetry c) (pick : List Nat → Option Nat) : Redispatches c pick :=
  fun s w hr _ => Or.inl (by rw [handleDeath_noRetry hc s w hr, markDead_noRetry hc]; exact hr)

theorem WDead.mono {x x' : Worker} (h : WDead x) (ha : x'.alive = x.alive) (hc : x'.closed = true → x.closed = true)
    (he : x'.eof = true → x.eof = true) (hm : Msg.endMarker ∈ x'.chan → Msg.endMarker ∈ x.chan) : WDead x' :=
  ⟨fun h' => ha ▸ h.closed_dead (hc h'), fun h' => ha ▸ h.eof_dead (he h'), fun h' => ha ▸ h.marker_dead (hm h')⟩

theorem WDead.of_dead {x : Worker} (ha : x.alive = false) : WDead x := ⟨fun _ => ha, fun _ => ha, fun _ => ha⟩

/-- what the pool reads before it declares a worker dead only a dead worker has written -/
theorem WDead.seen {x x' : Worker} (h : WDead x) (hs : Seen x x') : x.alive = false ∧ WDead x' := by
  cases hs with
  | eof _ _ he => exact ⟨h.eof_dead he, h.mono rfl id id id⟩
  | marker _ hch =>
    exact ⟨h.marker_dead (by rw [hch]; exact List.mem_cons_self ..),
      h.mono rfl id id (fun hm => by rw [hch]; exact List.mem_cons_of_mem _ hm)⟩

theorem WDead.local {x x' : Worker} (h : WDead x) (hl : Local x x') : WDead x' := by
  cases hl with
  | eof => exact h.mono rfl id id id
  | stale _ _ hch => exact h.mono rfl id id (fun hm => by rw [hch]; exact List.mem_cons_of_mem _ hm)
  | work => exact h.mono rfl id id (fun hm => (List.mem_append.mp hm).elim id fun hm => by cases List.mem_singleton.mp hm)
  | die => exact .of_dead rfl

/-- `t` has the workers of `s` except that `x` stands in for worker `w`; what `x` has gained or lost is accounted for
    elsewhere; new entries of `dropped` name `w`, now closed, and if *handed* an input of its pending list; nothing is
    removed from the log of enqueue calls, and what `x` holds beyond the pending list of `w` is in it -/
theorem InvNR.update {src0 F F' : List Inp} {s t : St} {w : Nat} {x : Worker} (h : InvNR src0 F s) (hw : w < s.ws.length)
    (hws : t.ws = (setW s w x).ws) (hx : WInv x ∧ WDead x)
    (hp : t.pending + (getW s w).ppw.length = s.pending + x.ppw.length)
    (hcons : ∀ i, t.src.count i + x.ppw.count i + t.ret.count i + dropCount i t + F'.count i =
                  s.src.count i + (getW s w).ppw.count i + s.ret.count i + dropCount i s + F.count i)
    (hr : t.retries = []) (hd : t.depleted = true → t.src = []) (he : t.err = none)
    (hcl : (getW s w).closed = true → x.closed = true)
    (hdr : ∀ d ∈ t.dropped, d ∈ s.dropped ∨ (d.w = w ∧ x.closed = true ∧ (d.handed = true → d.inp ∈ (getW s w).ppw)))
    (henq : ∀ e ∈ s.enq, e ∈ t.enq)
    (hppw : ∀ i ∈ x.ppw, i ∈ (getW s w).ppw ∨ (w, i) ∈ t.enq) : InvNR src0 F' t := by
  have hg : ∀ j, getW t j = if j = w then x else getW s j := fun j => by rw [getW_congr hws, getW_setW s w j x hw]
  have hlen : t.ws.length = s.ws.length := by rw [hws, setW_length]
  refine ⟨fun y hy => (mem_setW (hws ▸ hy)).elim (fun e => by rw [e]; exact hx) (h.ws y), ?_, fun i => ?_, hr, hd, he, ?_, ?_, ?_⟩
  · have h1 := ppwLen_update hw hws
    have h2 := h.pending
    omega
  · have h1 := ppwCount_update i hw hws
    have h2 := h.cons i
    have h3 := hcons i
    omega
  · intro d hd'
    rcases hdr d hd' with h1 | ⟨e, hc, _⟩
    · obtain ⟨a, b⟩ := h.dead d h1
      refine ⟨by rw [hlen]; exact a, ?_⟩
      rw [hg]; split
      · rename_i e; exact hcl (e ▸ b)
      · exact b
    · exact ⟨by rw [hlen, e]; exact hw, by rw [hg, if_pos e]; exact hc⟩
  · intro d hd' hh
    rcases hdr d hd' with h1 | ⟨e, _, hi⟩
    · exact henq _ (h.handed d h1 hh)
    · exact henq _ (by rw [e]; exact h.ppwEnq w hw _ (hi hh))
  · intro j hj i hi
    rw [hg] at hi; split at hi
    · rename_i e; subst e
      rcases hppw i hi with h1 | h1
      · exact henq _ (h.ppwEnq j hw i h1)
      · exact h1
    · exact henq _ (h.ppwEnq j (by rw [← hlen]; exact hj) i hi)

theorem InvNR.setW {src0 F : List Inp} {s : St} {w : Nat} {x : Worker} (h : InvNR src0 F s) (hw : w < s.ws.length)
    (hx : WInv x ∧ WDead x) (hp : x.ppw = (getW s w).ppw) (hcl : (getW s w).closed = true → x.closed = true) :
    InvNR src0 F (setW s w x) :=
  h.update hw rfl hx (by rw [hp]; rfl) (fun i => by rw [hp]; rfl) h.noRetries h.depl h.noerr hcl (fun _ hd => .inl hd)
    (fun _ he => he) (fun i hi => .inl (hp ▸ hi))

theorem nr_doEnqueue {src0 F : List Inp} {s : St} {inp : Inp} {w : Nat} (h : InvNR src0 (inp :: F) s)
    (hw : w < s.ws.length) (ha : (getW s w).alive = true) (hcl : (getW s w).closed = false) :
    InvNR src0 F (doEnqueue s w inp) := by
  obtain ⟨hx, hxd⟩ := h.ws _ (getW_mem s w hw)
  refine h.update hw rfl ⟨hx.enq ha hcl inp, hxd.mono rfl id id id⟩
    (by simp only [doEnqueue, setW_pending, List.length_append, List.length_singleton]; omega)
    (fun i => by
      simp only [doEnqueue, setW_src, setW_ret, setW_dropped, dropCount, List.count_append, List.count_cons,
        List.count_nil]
      omega)
    h.noRetries h.depl h.noerr id (fun _ hd => .inl hd) (fun _ he => List.mem_append_left _ he) (fun i hi => ?_)
  rcases List.mem_append.mp hi with hi | hi
  · exact .inl hi
  · exact .inr (by rw [List.mem_singleton.mp hi]; exact List.mem_append_right _ (List.mem_singleton.mpr rfl))

theorem nr_markDead (hc : NoRetry c) {src0 F : List Inp} {s : St} {w : Nat} (h : InvNR src0 F s)
    (hw : w < s.ws.length) (hdead : (getW s w).alive = false) : InvNR src0 F (markDead c s w) := by
  rw [markDead_noRetry hc]
  refine h.update hw rfl ⟨(h.ws _ (getW_mem s w hw)).1.dead, WDead.of_dead hdead⟩
    (by simp only [setW_pending, List.length_nil]; omega)
    (fun i => by
      simp only [dropCount, setW_src, setW_ret, setW_dropped, List.map_append, List.count_append, List.map_map,
        Function.comp_def, List.map_id', List.count_nil]
      omega)
    h.noRetries h.depl h.noerr (fun _ => rfl) (fun d hd => ?_) (fun _ he => he) (fun i hi => by cases hi)
  rcases List.mem_append.mp hd with hd | hd
  · exact .inl hd
  · obtain ⟨i, hi, rfl⟩ := List.mem_map.mp hd
    exact .inr ⟨rfl, rfl, fun _ => hi⟩

theorem nr_handleDeath (hc : NoRetry c) {src0 F : List Inp} {s : St} {w : Nat}
    (h : InvNR src0 F s) (hw : w < s.ws.length) (hdead : (getW s w).alive = false) :
    InvNR src0 F (handleDeath c pick s w) := by
  rw [handleDeath_noRetry hc s w h.noRetries]; exact nr_markDead hc h hw hdead

theorem nr_book (hc : NoRetry c) {src0 : List Inp} {F s F' t} (m : Book c True F s F' t)
    (h : InvNR src0 F s) : InvNR src0 F' t := by
  cases m with
  | popRetry hr => rw [h.noRetries] at hr; cases hr
  | popSrc _ hd hs =>
    exact { h with
      cons := fun i => by have := h.cons i; simp only [hs, ppwCount, dropCount, List.count_cons] at this ⊢; omega
      depl := fun hd' => by rw [hd] at hd'; cases hd' }
  | deplete _ hs => exact { h with depl := fun _ => hs }
  | @back _ _ w inp _ hrf => rw [hc.noFn w inp] at hrf; cases hrf
  | @unused _ s w inp fr g =>
    -- the input in flight is given up because worker `w` is closed
    rw [unused_noRetry hc, giveUp_noRetry hc]
    refine { h with cons := fun i => ?_, dead := fun d hd => ?_, handed := fun d hd hh => ?_ }
    · have := h.cons i
      simp only [ppwCount, dropCount, List.map_append, List.count_append, List.map_cons, List.map_nil, List.count_cons,
        List.count_nil] at this ⊢
      omega
    · rcases List.mem_append.mp hd with hd | hd
      · exact h.dead d hd
      · rw [List.mem_singleton.mp hd]; exact g trivial
    · rcases List.mem_append.mp hd with hd | hd
      · exact h.handed d hd hh
      · rw [List.mem_singleton.mp hd] at hh; cases hh
  | enq g ha => exact nr_doEnqueue h (g trivial).1 ha (g trivial).2

/-- (`InvNR` is checked on `Mid` and not on `Low`: `Low.mark` does not say that the worker marked is dead, `Mid.death`
    does; with retry off `handle_death` is that one move, `handleDeath_noRetry`) -/
theorem nr_mid (hc : NoRetry c) {src0 : List Inp} {F s F' t}
    (m : Mid c pick F s F' t) (h : InvNR src0 F s) : InvNR src0 F' t := by
  cases m with
  | book b => exact nr_book hc b h
  | death hw _ ha => exact nr_handleDeath hc h hw ha

theorem nr_ext (hc : NoRetry c) {src0 : List Inp} {F s F' t}
    (m : Ext c pick F s F' t) (h : InvNR src0 F s) : InvNR src0 F' t := by
  cases m with
  | @death _ _ w x' _ hw hcl hs =>
    obtain ⟨hx, hxd⟩ := h.ws _ (getW_mem s w hw)
    obtain ⟨hdead, hxd'⟩ := hxd.seen hs
    refine nr_handleDeath hc (h.setW hw ⟨hx.seen hs, hxd'⟩ hs.ppw (fun h => hs.closed ▸ h))
      (by rw [setW_length]; exact hw) ?_
    rw [getW_setW_same s w x' hw, hs.alive]
    exact hdead
  | @result _ _ w i rest p ppw' hw hcl _ hch hp1 =>
    obtain ⟨hx, hxd⟩ := h.ws _ (getW_mem s w hw)
    obtain ⟨q, e, hx'⟩ := hx.result hcl hch hp1
    cases e
    refine (result_run _ hw).inv (nr_mid hc) ?_
    refine h.update hw rfl ⟨hx', hxd.mono rfl id id (fun hm => by rw [hch]; exact List.mem_cons_of_mem _ hm)⟩
      (by simp only [hp1, List.length_cons]; omega) (fun j => ?_) h.noRetries h.depl h.noerr id (fun _ hd => .inl hd)
      (fun _ he => he) (fun j hj => .inl (by rw [hp1]; exact List.mem_cons_of_mem _ hj))
    simp only [hc.rr, if_true, setW_src, setW_dropped, hp1, dropCount, List.count_append, List.count_cons, List.count_nil]
    omega
  | popEmpty hw hcl _ hch hp0 =>
    obtain ⟨_, e, _⟩ := (h.ws _ (getW_mem s _ hw)).1.result hcl hch hp0
    cases e
  | loc hw hl =>
    obtain ⟨hx, hxd⟩ := h.ws _ (getW_mem s _ hw)
    exact h.setW hw ⟨hx.local hl, hxd.local hl⟩ hl.ppw (fun h => hl.closed ▸ h)

theorem nr_runEvents (hc : NoRetry c) {src0 : List Inp}
    (evs : List Ev) (s : St) (h : InvNR src0 [] s) (hk : K s) :
    InvNR src0 [] (runEvents c pick s evs) ∧ K (runEvents c pick s evs) :=
  ⟨(runEvents_run evs s).inv (nr_ext hc) h, K_runEvents hc.noFn (redispatches_nr hc pick) evs s hk⟩

theorem nr_init (n : Nat) (src : List Inp) : InvNR src [] (initSt n src) := by
  have hi := inv_init n src
  refine ⟨?_, hi.pending, ?_, rfl, hi.depl, rfl, ?_, ?_, ?_⟩
  · intro x hx
    refine ⟨hi.ws x hx, ?_⟩
    simp only [initSt, List.mem_replicate] at hx
    rw [hx.2]
    exact ⟨fun h => by simp at h, fun h => by simp at h, fun h => by simp at h⟩
  · intro i
    have := hi.cons i
    simp only [cnt, initSt, dropCount, List.count_nil, List.map_nil] at this ⊢
    omega
  · intro d hd; simp [initSt] at hd
  · intro d hd; simp [initSt] at hd
  · intro j hj i hi'
    simp only [initSt, List.length_replicate] at hj
    simp [getW, initSt, hj] at hi'

theorem nr_start (hc : NoRetry c)
    (n : Nat) (src : List Inp) (pre : List Ev) :
    InvNR src [] (start c pick n src pre) ∧ K (start c pick n src pre) :=
  ⟨start_eq c pick n src pre ▸
      (firstEnqueue_run [] _ _).inv (nr_mid hc) ((runEvents_run pre _).inv (nr_ext hc) (nr_init n src)),
    K_start hc.noFn n src pre⟩

theorem nr_reach (hc : NoRetry c) (pick : List Nat → Option Nat) (n : Nat) (src : List Inp) (pre evs : List Ev) :
    InvNR src [] (runEvents c pick (start c pick n src pre) evs) ∧ K (runEvents c pick (start c pick n src pre) evs) :=
  have ⟨h0, k0⟩ := nr_start hc (pick := pick) n src pre
  nr_runEvents hc evs _ h0 k0

end PwVerif.Pool
