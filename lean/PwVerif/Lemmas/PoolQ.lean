import PwVerif.Lemmas.Pool
/-!
No deadlock in the Pool model: whenever the event loop is waiting, some worker can answer or some registered queue
is ready. Needs one more invariant: the queue of a worker is forgotten only once the worker has been declared dead
(`QInv`); no move breaks it (`Mon`).
-/
namespace PwVerif.Pool

def QInv (s : St) : Prop := ∀ j, j < s.ws.length → (getW s j).closed = false → (getW s j).queue = true

theorem Mon.qinv {s t : St} (h : Mon s t) (hq : QInv s) : QInv t := by
  intro j hj hc
  rw [h.queue j hc]
  exact hq j (h.len ▸ hj) (h.open_of hc)

theorem qinv_runEvents {c : Cfg} {pick : List Nat → Option Nat} (evs : List Ev) (s : St) (h : QInv s) :
    QInv (runEvents c pick s evs) :=
  ((runEvents_run evs s).mon mon_ext).qinv h

theorem qinv_start (c : Cfg) (pick : List Nat → Option Nat) (n : Nat) (src : List Inp) (pre : List Ev) :
    QInv (start c pick n src pre) := by
  rw [start_eq]
  refine ((firstEnqueue_run [] _ _).mon mon_mid).qinv (qinv_runEvents pre _ ?_)
  intro j hj _
  simp only [initSt, List.length_replicate] at hj
  simp [getW, initSt, hj]

/-- **no deadlock**: while the event loop runs (something is pending and a worker is usable) some live worker
    holds an unprocessed input, or some registered queue holds a message or has reached EOF -/
theorem progress_possible {src0 : List Inp} {s : St} (hinv : Inv src0 [] s) (hq : QInv s)
    (hrun : running s = true) (herr : s.err = none) :
    ∃ w, effective s (.work w) = true ∨ effective s (.poll [w]) = true := by
  -- something is pending: on the list of some worker `j`, which is therefore not closed
  have hpend : s.pending ≠ 0 := by
    simp only [running, Bool.and_eq_true, decide_eq_true_eq] at hrun
    exact hrun.1
  have hlen : 0 < ppwLen s := by have := hinv.pending; omega
  obtain ⟨_, hm, hpos⟩ := List.sum_pos_iff_exists_pos_nat.mp hlen
  obtain ⟨x, hx, rfl⟩ := List.mem_map.mp hm
  obtain ⟨j, hj, rfl⟩ := List.getElem_of_mem hx
  rw [← getW_eq s j hj] at hpos hx
  have hp : (getW s j).ppw ≠ [] := fun e => by rw [e] at hpos; cases hpos
  have hw := hinv.ws _ hx
  have hcl : (getW s j).closed = false := by
    cases hc : (getW s j).closed with
    | false => rfl
    | true => exact absurd (hw.closed_ hc) hp
  have hopen := hw.open_ hcl
  refine ⟨j, ?_⟩
  by_cases hin : (getW s j).inbox = []
  · right
    -- nothing to process: a result waits in the pipe, or the worker is dead (EOF)
    have hready : ready s j = true := by
      simp only [ready, hj, decide_true, hq j hj hcl, Bool.true_and, Bool.or_eq_true, Bool.not_eq_true',
        List.isEmpty_eq_false_iff]
      by_cases hch : (getW s j).chan = []
      · right
        have hlost : (getW s j).lost ≠ [] := fun hl => hp (by rw [hopen, hch, hin, hl]; rfl)
        cases ha : (getW s j).alive with
        | true => exact absurd (hw.alive_ ha) hlost
        | false => exact (hw.dead_ ha).2
      · left; simpa using hch
    simp [effective, hrun, herr, hready]
  · left
    have ha : (getW s j).alive = true := by
      cases ha : (getW s j).alive with
      | true => rfl
      | false => exact absurd (hw.dead_ ha).1 hin
    simp [effective, hj, ha, hin]

end PwVerif.Pool
