import PwVerif.Model.Frames
/-! The frame-stack model: what `step` does to a frame without a parent, and the invariant `J` of a load without patches. -/
namespace PwVerif.Frames

theorem runEvents_append (s : St) (a b : List Ev) :
    runEvents s (a ++ b) = (match runEvents s a with
      | .ok s' => runEvents s' b
      | .error e => .error e) := by
  fun_induction runEvents s a <;> simp [runEvents, *]

theorem subFrames_nil_patches (it1 : Nat) (names : List Nat) (k : Nat) :
    ∀ f ∈ subFrames it1 [] names k, f = dummy := by
  induction names generalizing k with
  | nil => simp [subFrames]
  | cons n ns ih => simpa [subFrames, lookup] using ih (k + 1)

theorem subFrames_length (it1 : Nat) (p : Patches) (names : List Nat) (k : Nat) :
    (subFrames it1 p names k).length = names.length := by
  induction names generalizing k with
  | nil => rfl
  | cons n ns ih => simp [subFrames, ih]

theorem insertAt_top (l xs : List Frame) : insertAt l l.length xs = l ++ xs := by
  simp [insertAt]

theorem curFrame_enter (p : Patches) : curFrame? (enter p) = some ⟨0, none, p⟩ := by
  cases p <;> rfl

/-- `break_patches` with no named child pushes nothing. -/
theorem step_recreate_nil {s : St} {f : Frame} (id : Nat) (hf : curFrame? s = some f) :
    step s (.recreate id []) = .ok s := by
  simp [step, hf, subFrames]

theorem step_recreate_cons {s : St} {f : Frame} (id n : Nat) (ns : List Nat) (hf : curFrame? s = some f) :
    step s (.recreate id (n :: ns)) = .ok { s with
      stack := insertAt s.stack s.iter1 (subFrames s.iter1 f.patches (n :: ns) 0), iter1 := s.iter1 + 1 } := by
  simp [step, hf, subFrames]

/-- `__setstate__` of an object whose frame is the last one and has no parent (the top frame, or a dummy): it receives
    that frame's patches and the frame is closed. On an empty stack (`iter1 = 0`) erasing changes nothing, so the two
    branches of `close_current_ctx` are one. -/
theorem step_setstate_root {s : St} {f : Frame} (id : Nat) (hf : curFrame? s = some f)
    (hpar : f.parent1 = 0) (hname : f.name = none) (hi : s.iter1 = s.stack.length) :
    step s (.setstate id) = .ok { s with delivered := s.delivered ++ [(id, f.patches)], unused := false,
                                         stack := s.stack.eraseIdx (s.iter1 - 1), iter1 := s.iter1 - 1 } := by
  simp only [step, hf, hi, hpar, hname]
  by_cases h0 : s.stack.length = 0
  · simp [List.length_eq_zero_iff.mp h0]
  · simp [h0]

theorem fields_atoms {fields : List (Nat × Node)} (hf : ∀ f ∈ fields, f.2 = .atom) :
    namesF fields = [] ∧ eventsF fields = [] := by
  induction fields with
  | nil => exact ⟨rfl, rfl⟩
  | cons f fs ih =>
    obtain ⟨k, n⟩ := f
    obtain rfl : n = .atom := hf (k, n) List.mem_cons_self
    simpa [namesF, isOpt, eventsF, events] using ih fun x hx => hf x (List.mem_cons_of_mem _ hx)

theorem load_childless (id : Nat) (fields : List (Nat × Node)) (p : Patches)
    (hn : namesF fields = []) (he : eventsF fields = []) :
    deliveredOf (load p (.opt id fields)) = [(id, p)] := by
  have hc := curFrame_enter p
  have hi : (enter p).iter1 = (enter p).stack.length := by cases p <;> rfl
  simp only [load, events, hn, he, List.nil_append, runEvents, step_recreate_nil id hc,
    step_setstate_root id hc rfl rfl hi]
  cases p <;> simp [enter, exit, deliveredOf]

/-- Invariant of a load without top-level patches. -/
def J (s : St) : Prop :=
  s.iter1 = s.stack.length ∧ (∀ f ∈ s.stack, f = dummy) ∧ ∀ e ∈ s.delivered, e.2 = []

theorem curFrame_J {s : St} (h : J s) : curFrame? s = some dummy := by
  unfold curFrame?
  split
  · rfl
  · have hlt : s.iter1 - 1 < s.stack.length := by have := h.1; omega
    rw [List.getElem?_eq_getElem hlt, h.2.1 _ (List.getElem_mem hlt)]

/-- `recreate` keeps `J` when at most one child is named: the sub-frames are dummies pushed on top, but the iterator moves
    up by one whatever their number. -/
theorem step_recreate_J {s : St} (h : J s) (id : Nat) (names : List Nat) (hn : names.length ≤ 1) :
    ∃ s', step s (.recreate id names) = .ok s' ∧ J s' ∧ s'.stack.length = s.stack.length + names.length := by
  cases names with
  | nil => exact ⟨s, step_recreate_nil id (curFrame_J h), h, rfl⟩
  | cons n ns =>
    have hs := step_recreate_cons id n ns (curFrame_J h)
    rw [h.1, insertAt_top] at hs
    refine ⟨_, hs, ⟨?_, ?_, h.2.2⟩, ?_⟩
    · simp only [List.length_append, subFrames_length, List.length_cons] at hn ⊢
      omega
    · intro f hf
      rcases List.mem_append.mp hf with hf | hf
      · exact h.2.1 f hf
      · exact subFrames_nil_patches _ _ _ f hf
    · simp only [List.length_append, subFrames_length]

theorem step_setstate_J {s : St} (h : J s) (id : Nat) :
    ∃ s', step s (.setstate id) = .ok s' ∧ J s' ∧ s'.stack.length = s.stack.length - 1 := by
  have hl : (s.stack.eraseIdx (s.iter1 - 1)).length = s.stack.length - 1 := by
    rw [List.length_eraseIdx, h.1]
    split <;> omega
  refine ⟨_, step_setstate_root id (curFrame_J h) rfl rfl h.1, ⟨?_, ?_, ?_⟩, hl⟩
  · rw [hl, h.1]
  · exact fun f hf => h.2.1 f (List.mem_of_mem_eraseIdx hf)
  · intro e he
    rcases List.mem_append.mp he with he | he
    · exact h.2.2 e he
    · rw [List.mem_singleton.mp he]; rfl

/-- What the events of a loadable subgraph do. (`≤`, not `=`: the `__setstate__` of an opt-in object pops the frame its
    parent pushed for it, so a subgraph may leave the stack shorter than it found it; from the empty stack of `enter []`
    the bound gives the empty stack that `C14_loads_partial` claims.) -/
def KeepsJ (evs : List Ev) : Prop :=
  ∀ s, J s → ∃ s', runEvents s evs = .ok s' ∧ J s' ∧ s'.stack.length ≤ s.stack.length

theorem KeepsJ.nil : KeepsJ [] := fun s h => ⟨s, rfl, h, Nat.le_refl _⟩

theorem KeepsJ.append {a b : List Ev} (ha : KeepsJ a) (hb : KeepsJ b) : KeepsJ (a ++ b) := by
  intro s h
  obtain ⟨s1, e1, j1, l1⟩ := ha s h
  obtain ⟨s2, e2, j2, l2⟩ := hb s1 j1
  exact ⟨s2, by simp only [runEvents_append, e1, e2], j2, Nat.le_trans l2 l1⟩

/-- An opt-in object that names at most one child: the frame its `recreate` pushes is popped by its own `setstate` at
    the latest. -/
theorem KeepsJ.opt {evs : List Ev} (id : Nat) {names : List Nat} (hn : names.length ≤ 1) (hev : KeepsJ evs) :
    KeepsJ (.recreate id names :: (evs ++ [.setstate id])) := by
  intro s h
  obtain ⟨s1, e1, j1, l1⟩ := step_recreate_J h id names hn
  obtain ⟨s2, e2, j2, l2⟩ := hev s1 j1
  obtain ⟨s3, e3, j3, l3⟩ := step_setstate_J j2 id
  refine ⟨s3, ?_, j3, by omega⟩
  simp only [runEvents, e1, runEvents_append, e2, e3]

end PwVerif.Frames
