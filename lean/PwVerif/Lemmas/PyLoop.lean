import PwVerif.Lemmas.PyFuel
import PwVerif.Lemmas.PyEvalAttr
/-!
Loops of the statement language over an unbounded number of items (`Model/Py.lean`).

* `firstWhileL` finds the `while` statement of a regenerated run-loop program, so that no generated line number is quoted.
* `loop_generic`: from what one pass does with an item (`ItemSpec`) and with the release marker (`ReleaseSpec`) to the loop
  on **every** number `n` of items (`loopPost`). Induction on `n`; fuel is handled by `exec_mono`.
* `loop_rule` states that as an equation for the run of the loop, at every fuel from `F` on; the trace of
  line events is carried as `loopTr` (it is write-only in an undisturbed run).
* `exec_line` ... `exec_tryS` are the unfolding equations of the interpreter for every statement form but the loop (`sim`,
  `Lemmas/PySim.lean`, rewrites with them); the interpreter's functions make up the simp set `py_eval`.
-/
namespace PwVerif.Py

mutual
def firstWhile : Stmt → Option Stmt
  | .line _ _ => none
  | .ret _ _ => none
  | .brk _ => none
  | .call _ body _ => firstWhileL body
  | .ifS _ _ thn els => (firstWhileL thn).orElse fun _ => firstWhileL els
  | .whileS ln c body => some (.whileS ln c body)
  | .tryS _ body _ _ => firstWhileL body
def firstWhileL : List Stmt → Option Stmt
  | [] => none
  | s :: rest => (firstWhile s).orElse fun _ => firstWhileL rest
end

def itemsFrom (c : Nat) : Nat → List Msg
  | 0 => []
  | n + 1 => .item (c + 1) :: itemsFrom (c + 1) n

theorem itemsFrom_succ (c n : Nat) : [Msg.item (c + 1)] ++ itemsFrom (c + 1) n = itemsFrom c (n + 1) := rfl

theorem itemsFrom_eq (c n : Nat) : itemsFrom c n = (List.range n).map (fun k => Msg.item (c + k + 1)) := by
  induction n generalizing c with
  | zero => rfl
  | succ n ih =>
    simp only [itemsFrom, ih, List.range_succ_eq_map, List.map_cons, List.map_map]
    congr 1
    apply List.map_congr_left
    intro a _; simp only [Function.comp]; congr 1; omega

def loopPost (st : St) (n : Nat) (tail : List Input) (r : St × Out) : Prop :=
  r.2 = .normal ∧ r.1 = { st with rtrace := r.1.rtrace, inputs := tail, extraNone := true,
                                   counter := st.counter + n, results := st.results ++ itemsFrom st.counter n }

theorem while_step (env : Env) (ln : Nat) (c : Cond) (body : List Stmt) (st st0 stb : St) (Fb F : Nat) (r : St × Out)
    (hle : lineEvent st ln = (st0, none)) (hc : evalCond st0 env c = true)
    (hb : execBlock env Fb st0 body = (stb, .normal))
    (hrest : exec env F stb (.whileS ln c body) = r) (hr : r.2 ≠ .fuel) :
    exec env (max Fb F + 1) st (.whileS ln c body) = r := by
  simp only [exec, hle, hc, if_true]
  rw [execBlock_mono env hb (by simp) (max Fb F) (Nat.le_max_left _ _)]
  simp only
  exact exec_mono env hrest hr _ (Nat.le_max_right _ _)

theorem while_break (env : Env) (ln : Nat) (c : Cond) (body : List Stmt) (st st0 stb : St) (Fb : Nat)
    (hle : lineEvent st ln = (st0, none)) (hc : evalCond st0 env c = true)
    (hb : execBlock env Fb st0 body = (stb, .broke)) :
    exec env (Fb + 1) st (.whileS ln c body) = (stb, .normal) := by
  simp only [exec, hle, hc, if_true, hb]

theorem lineEvent_quiet (st : St) (ln : Nat) (hl : st.left = none) (hf : st.inflight = none) :
    lineEvent st ln = ({ st with rtrace := ln :: st.rtrace }, none) := by
  simp [lineEvent, hl, hf]

structure Quiet (st : St) : Prop where
  left : st.left = none
  inflight : st.inflight = none
  stop : st.stop = false

/-- one full iteration of the loop body on an item -/
def ItemSpec (env : Env) (B ln : Nat) (body : List Stmt) : Prop :=
  ∀ (st : St) (rest : List Input), st.inputs = .item :: rest → Quiet st →
    (execBlock env B { st with rtrace := ln :: st.rtrace } body).2 = .normal ∧
    (execBlock env B { st with rtrace := ln :: st.rtrace } body).1 =
      { st with rtrace := (execBlock env B { st with rtrace := ln :: st.rtrace } body).1.rtrace, inputs := rest,
                extraNone := false, counter := st.counter + 1, results := st.results ++ [.item (st.counter + 1)] }

/-- the iteration that receives the release marker leaves the loop by `break` -/
def ReleaseSpec (env : Env) (B ln : Nat) (body : List Stmt) : Prop :=
  ∀ (st : St) (rest : List Input), st.inputs = .release :: rest → Quiet st →
    (execBlock env B { st with rtrace := ln :: st.rtrace } body).2 = .broke ∧
    (execBlock env B { st with rtrace := ln :: st.rtrace } body).1 =
      { st with rtrace := (execBlock env B { st with rtrace := ln :: st.rtrace } body).1.rtrace, inputs := rest,
                extraNone := true }

theorem loop_generic (env : Env) (B ln : Nat) (c : Cond) (body : List Stmt)
    (hcond : ∀ st : St, st.stop = false → evalCond st env c = true)
    (hitem : ItemSpec env B ln body) (hrel : ReleaseSpec env B ln body) :
    ∀ n : Nat, ∃ F, ∀ (st : St) (tail : List Input), st.inputs = List.replicate n .item ++ .release :: tail →
      Quiet st → loopPost st n tail (exec env F st (.whileS ln c body)) := by
  intro n
  induction n with
  | zero =>
    refine ⟨B + 1, ?_⟩
    intro st tail hi hq
    simp only [List.replicate, List.nil_append] at hi
    obtain ⟨h2, h1⟩ := hrel st tail hi hq
    have hle := lineEvent_quiet st ln hq.left hq.inflight
    generalize hr : execBlock env B { st with rtrace := ln :: st.rtrace } body = rb at h1 h2
    obtain ⟨stb, ob⟩ := rb
    simp only at h1 h2
    subst h2
    rw [while_break env ln c body st _ stb B hle (hcond _ hq.stop) hr]
    refine ⟨rfl, ?_⟩
    simp only [itemsFrom, Nat.add_zero, List.append_nil]
    exact h1
  | succ n ih =>
    obtain ⟨F, ih⟩ := ih
    refine ⟨max B F + 1, ?_⟩
    intro st tail hi hq
    simp only [List.replicate, List.cons_append] at hi
    obtain ⟨h2, h1⟩ := hitem st _ hi hq
    have hle := lineEvent_quiet st ln hq.left hq.inflight
    generalize hr : execBlock env B { st with rtrace := ln :: st.rtrace } body = rb at h1 h2
    obtain ⟨stb, ob⟩ := rb
    simp only at h1 h2
    subst h2
    generalize stb.rtrace = X at h1
    subst h1
    have hpost := ih { st with rtrace := X, inputs := (List.replicate n Input.item ++ Input.release :: tail), extraNone := false, counter := st.counter + 1, results := st.results ++ [Msg.item (st.counter + 1)] } tail rfl ⟨hq.left, hq.inflight, hq.stop⟩
    rw [while_step env ln c body st _ _ B F _ hle (hcond _ hq.stop) hr rfl (by rw [hpost.1]; simp)]
    refine ⟨hpost.1, ?_⟩
    rw [hpost.2]
    simp [itemsFrom, Nat.add_assoc, Nat.add_comm 1 n]

/-- what `loop_generic` concludes, for one `n` and one fuel -/
def QuietSummary (env : Env) (n F : Nat) (W : Stmt) : Prop :=
  ∀ (st : St) (tail : List Input), st.inputs = List.replicate n .item ++ .release :: tail → Quiet st →
    loopPost st n tail (exec env F st W)

theorem exec_line (env : Env) (f : Nat) (st : St) (ln : Nat) (acts : List Act) :
    exec env (f + 1) st (.line ln acts) =
      match lineEvent st ln with
      | (st, some o) => (st, o)
      | (st, none) => doActs env st acts := by simp only [exec]; rfl
theorem exec_ret (env : Env) (f : Nat) (st : St) (ln : Nat) (acts : List Act) :
    exec env (f + 1) st (.ret ln acts) =
      match lineEvent st ln with
      | (st, some o) => (st, o)
      | (st, none) =>
        match doActs env st acts with
        | (st, .normal) => (st, .returned)
        | r => r := by simp only [exec]; rfl
theorem exec_brk (env : Env) (f : Nat) (st : St) (ln : Nat) :
    exec env (f + 1) st (.brk ln) =
      match lineEvent st ln with
      | (st, some o) => (st, o)
      | (st, none) => (st, .broke) := by simp only [exec]; rfl
theorem exec_call (env : Env) (f : Nat) (st : St) (ln : Nat) (body : List Stmt) (after : List Act) :
    exec env (f + 1) st (.call ln body after) =
      match lineEvent st ln with
      | (st, some o) => (st, o)
      | (st, none) =>
        match execBlock env f st body with
        | (st, .normal) => doActs env st after
        | (st, .returned) => doActs env st after
        | r => r := by simp only [exec]; rfl
theorem exec_ifS (env : Env) (f : Nat) (st : St) (ln : Nat) (c : Cond) (thn els : List Stmt) :
    exec env (f + 1) st (.ifS ln c thn els) =
      match lineEvent st ln with
      | (st, some o) => (st, o)
      | (st, none) => if evalCond st env c then execBlock env f st thn else execBlock env f st els := by
  simp only [exec]; rfl
theorem exec_tryS (env : Env) (f : Nat) (st : St) (ln : Nat) (body : List Stmt) (hs : List (Catch × Nat × List Stmt)) (fin : List Stmt) :
    exec env (f + 1) st (.tryS ln body hs fin) =
      match lineEvent st ln with
      | (st, some o) => (st, o)
      | (st, none) =>
        let (st, o) := execBlock env f st body
        let (st, o) :=
          match o with
          | .raised e => execHandlers env f st e hs
          | _ => (st, o)
        match o with
        | .killed => (st, o)
        | .stuck => (st, o)
        | .fuel => (st, o)
        | _ =>
          match execBlock env f st fin with
          | (st, .normal) => (st, o)
          | r => r := by simp only [exec]; rfl

attribute [py_eval] exec execBlock execHandlers lineEvent doActs doAct evalCond Catch.catches firstWhile firstWhileL
  Option.orElse

def loopTr (env : Env) (F : Nat) (st : St) (W : Stmt) : List Nat := (exec env F st W).1.rtrace

theorem loop_rule (env : Env) (W : Stmt) (n F : Nat)
    (hF : ∀ (st : St) (tail : List Input), st.inputs = List.replicate n .item ++ .release :: tail →
      Quiet st → loopPost st n tail (exec env F st W)) :
    ∀ (k : Nat) (st : St), st.inputs = List.replicate n .item ++ [.release] → st.left = none → st.inflight = none →
      st.stop = false →
      exec env (F + k) st W = ({ st with rtrace := loopTr env F st W, inputs := [], extraNone := true,
                                         counter := st.counter + n, results := st.results ++ itemsFrom st.counter n }, .normal) := by
  intro k st hi hl hf hs
  obtain ⟨h2, h1⟩ := hF st [] hi ⟨hl, hf, hs⟩
  have : exec env F st W = ({ st with rtrace := loopTr env F st W, inputs := [], extraNone := true,
                                         counter := st.counter + n, results := st.results ++ itemsFrom st.counter n }, .normal) := by
    apply Prod.ext
    · exact h1
    · exact h2
  exact exec_mono env this (by simp) _ (Nat.le_add_right _ _)

def lnOf : Stmt → Nat
  | .whileS ln _ _ => ln
  | _ => 0
def condOf : Stmt → Cond
  | .whileS _ c _ => c
  | _ => .notStop
def bodyOf : Stmt → List Stmt
  | .whileS _ _ b => b
  | _ => []
attribute [py_eval] lnOf condOf bodyOf

end PwVerif.Py
