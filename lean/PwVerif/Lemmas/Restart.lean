import PwVerif.Model.Restart
/-! The restart model in closed form: what a restart that does not raise returns (`restart_ok`), and what a live, open worker
    looks like after any list of inputs (`works_open`). -/
namespace PwVerif.C17
open PwVerif.Restart

/-- A restart that does not raise returns the object `__init__` rebuilds: nothing of the old
    incarnation but the constructor data and the synchronised user state. -/
theorem restart_ok {w w' : W} {fresh : Nat} (h : restart w fresh = .ok w') :
    w' = { ctor := w.ctor, ident := fresh, alive := true, closed := false, counter := 0, stream := [],
           userState := w.userState, stoppable := true } := by
  unfold restart at h
  split at h
  · cases h
  · cases h; rfl

theorem works_open (x : W) (vs : List Nat) (ha : x.alive = true) (hc : x.closed = false) :
    works x vs = { x with counter := x.counter + vs.length,
                          stream := x.stream ++ vs.map fun v => (x.ident, v) } := by
  induction vs generalizing x with
  | nil => simp [works]
  | cons v vs ih =>
    have hw : work x v = { x with counter := x.counter + 1, stream := x.stream ++ [(x.ident, v)] } := by
      simp [work, ha, hc]
    -- (`by exact`: elaborated once the goal has fixed `_`, the worker after one `work`, whose flags are those of `x`)
    rw [works, hw, ih _ (by exact ha) (by exact hc)]
    simp [Nat.add_assoc, Nat.add_comm 1]

end PwVerif.C17
