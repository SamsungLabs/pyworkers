import PwVerif.Model.Server
/-! One session against the accept loop: while every client-facing step is covered by a handler that goes on with the next
    client, a session that vanishes at such a step leaves the server accepting (`handle_accepting`). -/
namespace PwVerif.C11
open PwVerif.Server

def clientFacing (s : Step) : Bool := s.kind != .accept

/-- a session may vanish at any client-facing step -/
def wellFormed (loop : List Step) (sess : Session) : Bool :=
  match sess.cut with
  | none => true
  | some i => match loop[i]? with
    | none => true
    | some s => clientFacing s

theorem handle_accepting (loop : List Step) (sess : Session)
    (hp : ∀ s ∈ loop, clientFacing s = true → s.policy = .continue) (hw : wellFormed loop sess = true) :
    handle loop .accepting sess = .accepting := by
  fun_cases handle loop .accepting sess
  case case5 i hc s hl hs =>
    -- the only way to `dead`: cut at a step that does not survive; but the step is client-facing
    simp only [wellFormed, hc, hl] at hw
    simp [stepSurvives, hp s (List.mem_of_getElem? hl) hw] at hs
  all_goals rfl

end PwVerif.C11
