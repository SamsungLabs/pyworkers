import PwVerif.Model.Accessor
/-! The fabrication test of `ThreadWorker._get_result` (`holds`) once a read has seen the child dead: every later read sees
    it dead too, so a recorded outcome is found and a missing one is not. -/
namespace PwVerif.Accessor

/-- the liveness read comes before any read of `_result`, and `_result` is read after it -/
def aliveFirst : List Read → Bool
  | [] => false
  | .notAlive :: rs => rs.contains .resultIsNone
  | .started :: rs => aliveFirst rs
  | .resultIsNone :: _ => false

theorem monotone_tail (p : Phase) (ps : List Phase) (h : monotone (p :: ps) = true) : monotone ps = true := by
  cases ps with
  | nil => rfl
  | cons q qs => exact (Bool.and_eq_true_iff.mp h).2

theorem all_dead_of_monotone (ps : List Phase) (h : monotone (.dead :: ps) = true) : ∀ p ∈ ps, p = .dead := by
  induction ps with
  | nil => nofun
  | cons q qs ih =>
    simp only [monotone, Bool.and_eq_true, decide_eq_true_eq] at h
    obtain rfl : q = .dead := by cases q <;> simp [Phase.rank] at h ⊢
    exact List.forall_mem_cons.mpr ⟨rfl, ih h.2⟩

theorem holds_recorded_of_all_dead (rs : List Read) (ps : List Phase) (hd : ∀ p ∈ ps, p = .dead)
    (hc : rs.contains .resultIsNone = true) : holds true rs ps = false := by
  fun_induction holds true rs ps with
  | case1 => simp at hc
  | case2 r rs p ps ih =>
    obtain ⟨rfl, hps⟩ := List.forall_mem_cons.mp hd
    cases r with
    | resultIsNone => simp [resultIsNone]
    | _ => simp [ih hps (by simpa using hc)]
  | case3 => rfl

theorem holds_unrecorded_of_all_dead (rs : List Read) (ps : List Phase) (hd : ∀ p ∈ ps, p = .dead)
    (hl : rs.length ≤ ps.length) : holds false rs ps = true := by
  fun_induction holds false rs ps with
  | case1 => rfl
  | case2 r rs p ps ih =>
    obtain ⟨rfl, hps⟩ := List.forall_mem_cons.mp hd
    cases r <;> simp [resultIsNone, notAlive, ih hps (by simpa using hl)]
  | case3 => simp at hl

/-- The liveness read either sees the child alive, and the conjunction fails there, or sees it dead; then every later read
    sees it dead, and the read of `_result` that follows finds the recorded outcome. -/
theorem holds_false_of_aliveFirst (order : List Read) (ps : List Phase) (ha : aliveFirst order = true)
    (hm : monotone ps = true) : holds true order ps = false := by
  fun_induction holds true order ps with
  | case1 => simp [aliveFirst] at ha
  | case2 r rs p ps ih =>
    cases r with
    | resultIsNone => simp [aliveFirst] at ha
    | started => simp [ih ha (monotone_tail p ps hm)]
    | notAlive =>
      cases p with
      | dead => simp [holds_recorded_of_all_dead rs ps (all_dead_of_monotone ps hm) ha]
      | _ => simp [notAlive]
  | case3 => rfl

end PwVerif.Accessor
