import PwVerif.Model.Py
/-!
Fuel monotonicity of the statement-language interpreter (`Model/Py.lean`): a run that does not end with
`Out.fuel` gives the same result with any larger fuel. With it, statements about runs of unbounded length
(persistent loops over any number of items) can be made without fuel arithmetic.
-/
namespace PwVerif.Py

/-- more fuel never changes a result that did not run out of fuel (one step): by the induction principle of the
    interpreter itself (its motives come in the order `exec`, `execHandlers`, `execBlock`, hence `h`), every case by
    unfolding both runs one step and rewriting the runs of the parts with the hypotheses -/
theorem fuel_succ (env : Env) : ∀ f : Nat,
    (∀ st s r, exec env f st s = r → r.2 ≠ .fuel → exec env (f + 1) st s = r) ∧
    (∀ st b r, execBlock env f st b = r → r.2 ≠ .fuel → execBlock env (f + 1) st b = r) ∧
    (∀ st e hs r, execHandlers env f st e hs = r → r.2 ≠ .fuel → execHandlers env (f + 1) st e hs = r) := by
  have h : (∀ f st s, ∀ r, exec env f st s = r → r.2 ≠ .fuel → exec env (f + 1) st s = r) ∧
      (∀ f st e hs, ∀ r, execHandlers env f st e hs = r → r.2 ≠ .fuel → execHandlers env (f + 1) st e hs = r) ∧
      (∀ f st b, ∀ r, execBlock env f st b = r → r.2 ≠ .fuel → execBlock env (f + 1) st b = r) := by
    apply exec.mutual_induct env
    all_goals intros
    all_goals subst_vars
    all_goals try (simp_all [exec, execBlock, execHandlers]; done)
    -- `try`: the outcome of the body decides whether the handlers run
    all_goals (split at * <;> simp_all [exec])
  exact fun f => ⟨h.1 f, h.2.2 f, h.2.1 f⟩

theorem exec_mono (env : Env) {f : Nat} {st : St} {s : Stmt} {r : St × Out} (h : exec env f st s = r) (hr : r.2 ≠ .fuel) :
    ∀ g, f ≤ g → exec env g st s = r := by
  intro g hg
  obtain ⟨d, rfl⟩ := Nat.exists_eq_add_of_le hg
  induction d with
  | zero => exact h
  | succ d ih => exact (fuel_succ env (f + d)).1 st s r (ih (by omega)) hr

theorem execBlock_mono (env : Env) {f : Nat} {st : St} {b : List Stmt} {r : St × Out} (h : execBlock env f st b = r)
    (hr : r.2 ≠ .fuel) : ∀ g, f ≤ g → execBlock env g st b = r := by
  intro g hg
  obtain ⟨d, rfl⟩ := Nat.exists_eq_add_of_le hg
  induction d with
  | zero => exact h
  | succ d ih => exact (fuel_succ env (f + d)).2.1 st b r (ih (by omega)) hr

end PwVerif.Py
