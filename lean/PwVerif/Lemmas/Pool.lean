import PwVerif.Lemmas.PoolSteps
/-! The invariant `Inv` of the Pool model (retry on, any enqueue_fn): checked on the moves of `Lemmas/PoolSteps.lean`. -/
namespace PwVerif.Pool

theorem sum_set (l : List Nat) (w : Nat) (y : Nat) (h : w < l.length) :
    (l.set w y).sum + l[w] = l.sum + y := by
  induction l generalizing w with
  | nil => simp at h
  | cons a as ih =>
    cases w with
    | zero => simp; omega
    | succ w =>
      simp only [List.set_cons_succ, List.sum_cons, List.getElem_cons_succ]
      have := ih w (by simpa using h)
      omega

/-- inputs of the result messages waiting in a channel, in order -/
def resIn : List Msg → List Inp
  | [] => []
  | .res i :: rest => i :: resIn rest
  | .endMarker :: rest => resIn rest

theorem resIn_append (a b : List Msg) : resIn (a ++ b) = resIn a ++ resIn b := by
  induction a with
  | nil => rfl
  | cons m ms ih => cases m <;> simp [resIn, ih]

structure WInv (x : Worker) : Prop where
  open_ : x.closed = false → x.ppw = resIn x.chan ++ x.inbox ++ x.lost
  closed_ : x.closed = true → x.ppw = []
  alive_ : x.alive = true → x.lost = []
  dead_ : x.alive = false → x.inbox = [] ∧ x.eof = true

def ppwCount (i : Inp) (s : St) : Nat := (s.ws.map (fun x => x.ppw.count i)).sum
def ppwLen (s : St) : Nat := (s.ws.map (fun x => x.ppw.length)).sum

def cnt (i : Inp) (s : St) : Nat := s.src.count i + s.retries.count i + ppwCount i s + s.ret.count i

/-- `F`: the inputs that `next_inputs` has handed out and that are not placed yet (Lemmas/PoolSteps.lean) -/
structure Inv (src0 F : List Inp) (s : St) : Prop where
  ws : ∀ x ∈ s.ws, WInv x
  pending : s.pending = (ppwLen s : Int)
  cons : ∀ i, src0.count i = cnt i s + F.count i
  depl : s.depleted = true → s.src = []
  nopop : s.err ≠ some .popEmpty

theorem sum_map_update (f : Worker → Nat) {s t : St} {w : Nat} {x : Worker} (hw : w < s.ws.length)
    (hws : t.ws = (setW s w x).ws) : (t.ws.map f).sum + f (getW s w) = (s.ws.map f).sum + f x := by
  rw [hws]
  simp only [setW, List.map_set]
  have := sum_set (s.ws.map f) w (f x) (by simpa using hw)
  simpa [getW_eq s w hw] using this

theorem ppwCount_update (i : Inp) {s t : St} {w : Nat} {x : Worker} (hw : w < s.ws.length) (hws : t.ws = (setW s w x).ws) :
    ppwCount i t + (getW s w).ppw.count i = ppwCount i s + x.ppw.count i :=
  sum_map_update _ hw hws

theorem ppwLen_update {s t : St} {w : Nat} {x : Worker} (hw : w < s.ws.length) (hws : t.ws = (setW s w x).ws) :
    ppwLen t + (getW s w).ppw.length = ppwLen s + x.ppw.length :=
  sum_map_update _ hw hws

theorem ppwCount_setW (i : Inp) (s : St) (w : Nat) (x : Worker) (h : w < s.ws.length) :
    ppwCount i (setW s w x) + (getW s w).ppw.count i = ppwCount i s + x.ppw.count i :=
  ppwCount_update i h rfl

theorem ppwLen_setW (s : St) (w : Nat) (x : Worker) (h : w < s.ws.length) :
    ppwLen (setW s w x) + (getW s w).ppw.length = ppwLen s + x.ppw.length :=
  ppwLen_update h rfl

theorem ppw_nil_of_pending {s : St} (hp : s.pending = (ppwLen s : Int)) (h0 : s.pending = 0) : ∀ x ∈ s.ws, x.ppw = [] := by
  intro x hx
  have hl : ppwLen s = 0 := by rw [h0] at hp; omega
  exact List.length_eq_zero_iff.mp (List.sum_eq_zero_iff_forall_eq_nat.mp hl _ (List.mem_map_of_mem hx))

theorem ppwCount_of_pending {s : St} (hp : s.pending = (ppwLen s : Int)) (h0 : s.pending = 0) (i : Inp) :
    ppwCount i s = 0 := by
  apply List.sum_eq_zero_iff_forall_eq_nat.mpr
  intro k hk
  obtain ⟨x, hx, rfl⟩ := List.mem_map.mp hk
  rw [ppw_nil_of_pending hp h0 x hx]; rfl

/-- configuration of the *safety* theorems (conservation, exactly-once, no IndexError, genuine partial
    results): retry on, results returned - and **any** user `enqueue_fn` (`c.refuse` is arbitrary) -/
structure Retrying (c : Cfg) : Prop where
  retry : c.retry = true
  rr : c.returnResults = true

/-- configuration of the failure-report theorems (`C08_sound`, `C09_chain`): additionally no user enqueue function
    (one that refuses an input for every live worker ends the run with `PoolError` although nobody has died:
    `C07_refusal_witness_after_fix`) -/
structure Plain (c : Cfg) : Prop extends Retrying c where
  noFn : ∀ w i, c.refuse w i = false

instance {c : Cfg} : Coe (Plain c) (Retrying c) := ⟨Plain.toRetrying⟩

theorem putBack_eq {c : Cfg} (hc : Retrying c) (s : St) (inp : Inp) (fr : Bool) : putBack s inp fr = unused c s inp fr := by
  simp [unused, hc.retry]

theorem giveUp_eq {c : Cfg} (hc : Retrying c) (s : St) (w : Nat) (inp : Inp) : giveUp c s w inp = s := by
  simp [giveUp, hc.retry]

theorem markDead_eq {c : Cfg} (hc : Retrying c) (s : St) (w : Nat) :
    markDead c s w = setW { s with retries := s.retries ++ (getW s w).ppw,
                                   pending := s.pending - (getW s w).ppw.length } w
                          { getW s w with ppw := [], closed := true } := by
  simp [markDead, hc.retry]

theorem WInv.enq {x : Worker} (h : WInv x) (ha : x.alive = true) (hcl : x.closed = false) (inp : Inp) :
    WInv { x with inbox := x.inbox ++ [inp], ppw := x.ppw ++ [inp] } :=
  ⟨fun _ => by simp [h.open_ hcl, h.alive_ ha], fun hc => by simp [hcl] at hc, fun _ => h.alive_ ha,
    fun hd => by simp [ha] at hd⟩

theorem WInv.dead {x : Worker} (h : WInv x) : WInv { x with ppw := [], closed := true } :=
  ⟨fun hcl => (by cases hcl), fun _ => rfl, h.alive_, h.dead_⟩

theorem WInv.seen {x x' : Worker} (h : WInv x) (hs : Seen x x') : WInv x' := by
  cases hs with
  | eof => exact ⟨h.open_, h.closed_, h.alive_, h.dead_⟩
  | marker _ hch => exact ⟨fun hcl => by simpa [hch, resIn] using h.open_ hcl, h.closed_, h.alive_, h.dead_⟩

/-- the pending list `l` of an open worker starts with the input of the result that is read: no `IndexError`
    (`Ext.popEmpty`, `l = []`, cannot happen), and the input popped is the one answered (`Ext.result`) -/
theorem WInv.result {x : Worker} {i : Inp} {rest : List Msg} {l : List Inp} (h : WInv x) (hcl : x.closed = false)
    (hch : x.chan = .res i :: rest) (hl : x.ppw = l) :
    ∃ ppw', l = i :: ppw' ∧ WInv { x with chan := rest, ppw := ppw' } := by
  have ho := h.open_ hcl
  simp only [hl, hch, resIn, List.cons_append] at ho
  exact ⟨_, ho, fun _ => rfl, fun hc => by simp [hcl] at hc, h.alive_, h.dead_⟩

theorem WInv.local {x x' : Worker} (h : WInv x) (hl : Local x x') : WInv x' := by
  cases hl with
  | eof => exact ⟨h.open_, h.closed_, h.alive_, h.dead_⟩
  | stale hcl => exact ⟨fun hc => by simp [hcl] at hc, h.closed_, h.alive_, h.dead_⟩
  | work ha hin =>
    exact ⟨fun hcl => by simp [h.open_ hcl, hin, resIn_append, resIn], h.closed_, h.alive_, fun hd => by simp [ha] at hd⟩
  | die marker ha =>
    exact ⟨fun hcl => by cases marker <;> simp [h.open_ hcl, h.alive_ ha, resIn_append, resIn], h.closed_,
      fun hd => by simp at hd, fun _ => ⟨rfl, rfl⟩⟩

/-- `t` has the workers of `s` except that `x` stands in for worker `w`; what `x` has gained or lost is accounted for
    elsewhere -/
theorem Inv.update {src0 F F' : List Inp} {s t : St} {w : Nat} {x : Worker} (h : Inv src0 F s) (hw : w < s.ws.length)
    (hws : t.ws = (setW s w x).ws) (hx : WInv x)
    (hp : t.pending + (getW s w).ppw.length = s.pending + x.ppw.length)
    (hcons : ∀ i, t.src.count i + t.retries.count i + x.ppw.count i + t.ret.count i + F'.count i =
                  s.src.count i + s.retries.count i + (getW s w).ppw.count i + s.ret.count i + F.count i)
    (hd : t.depleted = true → t.src = []) (he : t.err ≠ some .popEmpty) : Inv src0 F' t := by
  refine ⟨fun y hy => (mem_setW (hws ▸ hy)).elim (fun e => by rw [e]; exact hx) (h.ws y), ?_, fun i => ?_, hd, he⟩
  · have h1 := ppwLen_update hw hws
    have h2 := h.pending
    omega
  · have h1 := ppwCount_update i hw hws
    have h2 := h.cons i
    have h3 := hcons i
    simp only [cnt] at h2 ⊢
    omega

variable {c : Cfg} {pick : List Nat → Option Nat}

theorem inv_putBack {src0 F : List Inp} {s : St} {inp : Inp} (h : Inv src0 (inp :: F) s) (fr : Bool) :
    Inv src0 F (putBack s inp fr) := by
  cases fr
  · refine { h with cons := fun i => ?_ }
    have := h.cons i
    simp only [cnt, ppwCount, putBack_false, List.count_append, List.count_cons, List.count_nil] at this ⊢
    omega
  · refine { h with cons := fun i => ?_ }
    have := h.cons i
    simp only [cnt, ppwCount, putBack_true, List.count_cons] at this ⊢
    omega

theorem inv_doEnqueue {src0 F : List Inp} {s : St} {inp : Inp} {w : Nat} (h : Inv src0 (inp :: F) s)
    (hw : w < s.ws.length) (ha : (getW s w).alive = true) (hcl : (getW s w).closed = false) :
    Inv src0 F (doEnqueue s w inp) :=
  h.update hw rfl ((h.ws _ (getW_mem s w hw)).enq ha hcl inp)
    (by simp only [doEnqueue, setW_pending, List.length_append, List.length_singleton]; omega)
    (fun i => by
      simp only [doEnqueue, setW_src, setW_retries, setW_ret, List.count_append, List.count_cons, List.count_nil]; omega)
    h.depl h.nopop

theorem inv_markDead (hc : Retrying c) {src0 F : List Inp} {s : St} {w : Nat} (h : Inv src0 F s)
    (hw : w < s.ws.length) : Inv src0 F (markDead c s w) := by
  rw [markDead_eq hc]
  exact h.update hw rfl (h.ws _ (getW_mem s w hw)).dead (by simp only [setW_pending, List.length_nil]; omega)
    (fun i => by simp only [setW_src, setW_retries, setW_ret, List.count_append, List.count_nil]; omega) h.depl h.nopop

theorem inv_book (hc : Retrying c) {G : Prop} (g : G) {src0 : List Inp} {F s F' t} (m : Book c G F s F' t)
    (h : Inv src0 F s) : Inv src0 F' t := by
  cases m with
  | popRetry hr =>
    exact { h with cons := fun i => by have := h.cons i; simp only [cnt, ppwCount, hr, List.count_cons] at this ⊢; omega }
  | popSrc _ hd hs =>
    exact { h with
      cons := fun i => by have := h.cons i; simp only [cnt, ppwCount, hs, List.count_cons] at this ⊢; omega
      depl := fun hd' => by rw [hd] at hd'; cases hd' }
  | deplete _ hs => exact { h with depl := fun _ => hs }
  | back fr => exact inv_putBack h fr
  | unused fr => rw [giveUp_eq hc, ← putBack_eq hc]; exact inv_putBack h fr
  | enq hw ha => exact inv_doEnqueue h (hw g).1 ha (hw g).2

theorem inv_low (hc : Retrying c) (hp : PickOK pick) {src0 : List Inp}
    {F s F' t} (m : Low c pick F s F' t) (h : Inv src0 F s) : Inv src0 F' t := by
  cases m with
  | book g m => exact inv_book hc (g hp) m h
  | mark hw => exact inv_markDead hc h (hw hp).1
  | fuel => exact { h with nopop := by simp }

theorem inv_mid (hc : Retrying c) (hp : PickOK pick) {src0 : List Inp}
    {F s F' t} (m : Mid c pick F s F' t) (h : Inv src0 F s) : Inv src0 F' t :=
  m.run.inv (inv_low hc hp) h

theorem inv_ext (hc : Retrying c) (hp : PickOK pick) {src0 : List Inp}
    {F s F' t} (m : Ext c pick F s F' t) (h : Inv src0 F s) : Inv src0 F' t := by
  cases m with
  | death _ hw hcl hs =>
    have hx := h.ws _ (getW_mem s _ hw)
    refine (death_run _ hw hcl hs).inv (inv_low hc hp) ?_
    exact h.update hw rfl (hx.seen hs) (by rw [hs.ppw]; rfl) (fun i => by rw [hs.ppw]; rfl) h.depl h.nopop
  | @result _ _ w i rest p ppw' hw hcl _ hch hp1 =>
    obtain ⟨q, e, hx⟩ := (h.ws _ (getW_mem s w hw)).result hcl hch hp1
    cases e
    refine (result_run _ hw).inv (inv_mid hc hp) ?_
    refine h.update hw rfl hx (by simp only [hp1, List.length_cons]; omega) (fun j => ?_) h.depl h.nopop
    simp only [hc.rr, if_true, setW_src, setW_retries, hp1, List.count_append, List.count_cons, List.count_nil]
    omega
  | popEmpty hw hcl _ hch hp0 =>
    obtain ⟨_, e, _⟩ := (h.ws _ (getW_mem s _ hw)).result hcl hch hp0
    cases e
  | loc hw hl =>
    exact h.update hw rfl ((h.ws _ (getW_mem s _ hw)).local hl) (by rw [hl.ppw]; rfl) (fun i => by rw [hl.ppw]; rfl)
      h.depl h.nopop

theorem inv_firstEnqueue (hc : Retrying c) (hp : PickOK pick) {src0 F : List Inp}
    (rounds : Nat) (s : St) (h : Inv src0 F s) : Inv src0 F (firstEnqueue c pick rounds s) :=
  (firstEnqueue_run F rounds s).inv (inv_mid hc hp) h

theorem inv_step (hc : Retrying c) (hp : PickOK pick)
    {src0 : List Inp} {s : St} (ev : Ev) (h : Inv src0 [] s) : Inv src0 [] (step c pick s ev) :=
  (step_run s ev).inv (inv_ext hc hp) h

theorem inv_runEvents (hc : Retrying c) (hp : PickOK pick) {src0 : List Inp}
    (evs : List Ev) (s : St) (h : Inv src0 [] s) : Inv src0 [] (runEvents c pick s evs) :=
  (runEvents_run evs s).inv (inv_ext hc hp) h

theorem inv_init (n : Nat) (src : List Inp) : Inv src [] (initSt n src) := by
  refine ⟨?_, ?_, ?_, fun hd => by simp [initSt] at hd, by simp [initSt]⟩
  · intro x hx
    simp only [initSt, List.mem_replicate] at hx
    rw [hx.2]
    exact ⟨fun _ => rfl, fun hc => by simp at hc, fun _ => rfl, fun hd => by simp at hd⟩
  · simp [initSt, ppwLen]
  · intro i; simp [cnt, ppwCount, initSt]

theorem inv_start (hc : Retrying c) (hp : PickOK pick)
    (n : Nat) (src : List Inp) (pre : List Ev) : Inv src [] (start c pick n src pre) :=
  start_eq c pick n src pre ▸ inv_firstEnqueue hc hp _ _ (inv_runEvents hc hp pre _ (inv_init n src))

theorem inv_reach (hc : Retrying c) (hp : PickOK pick)
    (n : Nat) (src : List Inp) (pre evs : List Ev) : Inv src [] (runEvents c pick (start c pick n src pre) evs) :=
  inv_runEvents hc hp evs _ (inv_start hc hp n src pre)

theorem perm_of_inv_returned {src0 : List Inp} {s : St} {ret : List Inp} (hinv : Inv src0 [] s)
    (h : outcome s = .returned ret) : ret.Perm src0 := by
  obtain ⟨_, hd, hpend, hretr, rfl⟩ := outcome_spec h
  apply List.perm_iff_count.mpr
  intro i
  have := hinv.cons i
  simp only [cnt, hinv.depl hd, hretr, ppwCount_of_pending hinv.pending hpend i, List.count_nil] at this
  omega

end PwVerif.Pool
