import PwVerif.Model.Shutdown
/-! A shutdown path that visits every child, guards each one and forces the stop (`good`): the shutdown is `stop` mapped over
    the registry, and `stop` gets rid of the one kind of child that does not go by itself. -/
namespace PwVerif.C12
open PwVerif.Shutdown

def good (p : Path) : Bool := p.iteratesChildren && p.perChildGuarded && (p.forcedTerminate || p.killFallback)

theorem shutdown_good {p : Path} (hp : good p = true) (cs : List Child) : shutdown p cs = cs.map (stop p) := by
  simp only [good, Bool.and_eq_true] at hp
  simp [shutdown, hp.1]

/-- a good path gets rid of a child that swallows the exception (forced terminate, or SIGTERM) -/
theorem stop_swallowing {p : Path} (hp : good p = true) : stop p .swallowing = (true, ⟨true, some true, false⟩) := by
  simp only [good, Bool.and_eq_true] at hp
  simp [stop, hp.2]

end PwVerif.C12
