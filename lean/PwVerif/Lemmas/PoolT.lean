import PwVerif.Lemmas.Pool
/-!
Termination of the Pool model: a lexicographic measure `(number of workers not yet closed, potential)` that **every**
move of the pool and of the environment leaves unchanged or decreases, and that every *event* (a worker answering, a
worker dying, the pool reading a ready queue) decreases strictly. Hence no schedule contains infinitely many
effective events: "provided every worker eventually answers or dies, `Pool.run` terminates".
An input in flight counts like one on the retry list (`DecG`), so that taking it and placing it are both moves that
do not increase the measure.
-/
namespace PwVerif.Pool

/-- potential of one worker: unprocessed inputs, unread messages, being alive, having an open queue. The weights make
    every move lose: an input waiting at the pool weighs 4 (`phi`), in an inbox 3, as a result message in the pipe 2; so
    handing it over, working on it and reading its result each lower the sum, a death trades 3 for at most one end marker
    (2), and the EOF that closes a queue costs the last 1. -/
def wt (x : Worker) : Nat :=
  3 * x.inbox.length + 2 * x.chan.length + (if x.alive then 3 else 0) + (if x.queue then 1 else 0)
def W (s : St) : Nat := (s.ws.map wt).sum
def phi (s : St) : Nat :=
  4 * s.src.length + 4 * s.retries.length + (if s.depleted then 0 else 1) + W s
/-- workers not yet declared dead -/
def nc (s : St) : Nat := s.ws.countP (fun x => !x.closed)

/-- lexicographic `≤` / `<` on `(nc, phi)` -/
def Dec (s t : St) : Prop := nc t < nc s ∨ (nc t = nc s ∧ phi t ≤ phi s)
def SDec (s t : St) : Prop := nc t < nc s ∨ (nc t = nc s ∧ phi t < phi s)

theorem SDec.dec {s t : St} (h : SDec s t) : Dec s t := by unfold Dec SDec at *; omega
theorem SDec.trans_dec {a b c : St} (h1 : SDec a b) (h2 : Dec b c) : SDec a c := by unfold Dec SDec at *; omega

theorem W_update {s t : St} {w : Nat} {x : Worker} (hw : w < s.ws.length) (hws : t.ws = (setW s w x).ws) :
    W t + wt (getW s w) = W s + wt x :=
  sum_map_update wt hw hws

theorem nc_setW (s : St) (w : Nat) (x : Worker) (h : w < s.ws.length) :
    nc (setW s w x) = nc s - (if !(getW s w).closed then 1 else 0) + (if !x.closed then 1 else 0) := by
  simp only [nc, setW]
  rw [List.countP_set h, getW_eq s w h]

theorem nc_pos (s : St) (w : Nat) (h : w < s.ws.length) (hc : (getW s w).closed = false) : 1 ≤ nc s := by
  apply List.countP_pos_iff.mpr
  exact ⟨getW s w, getW_mem s w h, by simp [hc]⟩

theorem nc_setW_same (s : St) (w : Nat) (x : Worker) (hc : x.closed = (getW s w).closed) :
    nc (setW s w x) = nc s := by
  by_cases h : w < s.ws.length
  · rw [nc_setW s w x h, hc]
    cases hcl : (getW s w).closed with
    | true => simp
    | false => have := nc_pos s w h hcl; simp; omega
  · rw [setW_oob s w x h]

/-- the measure on ghost states: each input in flight weighs as much as one waiting -/
def DecG : Rel := fun F s F' t => nc t < nc s ∨ (nc t = nc s ∧ phi t + 4 * F'.length ≤ phi s + 4 * F.length)

theorem DecG.refl (F : List Inp) (s : St) : DecG F s F s := Or.inr ⟨rfl, Nat.le_refl _⟩
theorem DecG.trans {F s F' t F'' u} (h1 : DecG F s F' t) (h2 : DecG F' t F'' u) : DecG F s F'' u := by
  unfold DecG at *; omega
theorem DecG.nc_le {F s F' t} (h : DecG F s F' t) : nc t ≤ nc s := by unfold DecG at h; omega
theorem DecG.dec {s t : St} (h : DecG [] s [] t) : Dec s t := by simpa [DecG, Dec] using h
theorem Dec.decG {s t : St} (h : Dec s t) (F : List Inp) : DecG F s F t := by unfold Dec DecG at *; omega

theorem Run.decG {A : Rel} {F s F' t} (r : Run A F s F' t) (h : ∀ {F s F' t}, A F s F' t → DecG F s F' t) : DecG F s F' t :=
  r.lift DecG.refl DecG.trans h

theorem nc_congr {s t : St} (h : t.ws = s.ws) : nc t = nc s := by simp [nc, h]

theorem doEnqueue_measure (s : St) (w : Nat) (inp : Inp) (hw : w < s.ws.length) :
    nc (doEnqueue s w inp) = nc s ∧ phi (doEnqueue s w inp) = phi s + 3 := by
  constructor
  · show nc (setW s w _) = nc s
    exact nc_setW_same s w _ rfl
  · have := W_update (x := { getW s w with inbox := (getW s w).inbox ++ [inp], ppw := (getW s w).ppw ++ [inp] }) hw rfl
    show 4 * s.src.length + 4 * s.retries.length + (if s.depleted then 0 else 1) + W (setW s w _) = phi s + 3
    simp only [wt, List.length_append, List.length_singleton] at this
    simp only [phi]
    omega

theorem markDead_nc (c : Cfg) (s : St) (w : Nat) (hw : w < s.ws.length) (hcl : (getW s w).closed = false) :
    nc (markDead c s w) + 1 = nc s := by
  rw [nc_congr (markDead_ws c s w), nc_setW s w _ hw, hcl]
  have := nc_pos s w hw hcl
  simp; omega

theorem unused_nc (c : Cfg) (s : St) (inp : Inp) (fr : Bool) : nc (unused c s inp fr) = nc s :=
  nc_congr (unused_ws c s inp fr)

theorem giveUp_nc (c : Cfg) (s : St) (w : Nat) (inp : Inp) : nc (giveUp c s w inp) = nc s :=
  nc_congr (giveUp_ws c s w inp)

theorem putBack_phi (s : St) (inp : Inp) (fr : Bool) : phi (putBack s inp fr) = phi s + 4 := by
  cases fr <;> simp [putBack, phi, W] <;> omega

/-- an input that is put back weighs what it weighed in flight; one that is given up weighs nothing any more -/
theorem unused_phi (c : Cfg) (s : St) (w : Nat) (inp : Inp) (fr : Bool) :
    phi (unused c (giveUp c s w inp) inp fr) ≤ phi s + 4 := by
  have e : phi (giveUp c s w inp) = phi s := by unfold giveUp; cases c.retry <;> rfl
  unfold unused
  split
  · omega
  · rw [putBack_phi]; omega

variable {c : Cfg} {pick : List Nat → Option Nat}

theorem dec_book {G : Prop} (g : G) {F s F' t} (m : Book c G F s F' t) : DecG F s F' t := by
  cases m with
  | popRetry hr => exact Or.inr ⟨rfl, by simp only [phi, hr, List.length_cons, W]; omega⟩
  | popSrc _ _ hs => exact Or.inr ⟨rfl, by simp only [phi, hs, List.length_cons, W]; omega⟩
  | deplete => exact Or.inr ⟨rfl, by simp only [phi, W, ↓reduceIte]; split <;> omega⟩
  | back fr => exact Or.inr ⟨nc_congr (by cases fr <;> rfl), by rw [putBack_phi, List.length_cons]; omega⟩
  | @unused _ s w inp fr =>
    exact Or.inr ⟨by rw [unused_nc, giveUp_nc], by have := unused_phi c s w inp fr; rw [List.length_cons]; omega⟩
  | @enq _ s w inp hw =>
    obtain ⟨n1, p1⟩ := doEnqueue_measure s w inp (hw g).1
    exact Or.inr ⟨n1, by rw [List.length_cons]; omega⟩

theorem dec_low (hp : PickOK pick) {F s F' t} (m : Low c pick F s F' t) :
    DecG F s F' t := by
  cases m with
  | book g m => exact dec_book (g hp) m
  | mark hw => exact Or.inl (by have := markDead_nc c _ _ (hw hp).1 (hw hp).2; omega)
  | fuel => exact DecG.refl _ _

theorem dec_mid (hp : PickOK pick) {F s F' t} (m : Mid c pick F s F' t) :
    DecG F s F' t :=
  m.run.decG (dec_low hp)

theorem setW_sdec {s t : St} (w : Nat) (x : Worker) (hw : w < s.ws.length) (hws : t.ws = (setW s w x).ws)
    (hsrc : t.src = s.src) (hr : t.retries = s.retries) (hd : t.depleted = s.depleted)
    (hc : x.closed = (getW s w).closed) (hlt : wt x < wt (getW s w)) : SDec s t := by
  have := W_update hw hws
  exact Or.inr ⟨by rw [nc_congr hws]; exact nc_setW_same s w x hc, by simp only [phi, hsrc, hr, hd]; omega⟩

theorem Local.wt_lt {x x' : Worker} (h : Local x x') : wt x' < wt x := by
  cases h with
  | eof _ hq => simp [wt, hq]
  | stale _ _ hch => simp [wt, hch] <;> omega
  | work _ hin => simp [wt, hin] <;> omega
  | die marker ha => cases marker <;> simp [wt, ha] <;> omega

theorem sdec_ext (hp : PickOK pick) {F s F' t} (m : Ext c pick F s F' t) :
    SDec s t := by
  cases m with
  | @death _ _ w x' _ hw hcl hs =>
    have h1 : SDec s (setW s w x') := by
      refine setW_sdec w x' hw rfl rfl rfl rfl hs.closed ?_
      cases hs with
      | eof hq => simp [wt, hq]
      | marker _ hch => simp [wt, hch] <;> omega
    exact h1.trans_dec ((death_run [] hw hcl hs).decG (dec_low hp)).dec
  | @result _ _ w _ _ _ _ hw _ _ hch =>
    refine .trans_dec ?_ ((result_run [] hw).decG (dec_mid hp)).dec
    exact setW_sdec w _ hw rfl rfl rfl rfl rfl (by simp [wt, hch] <;> omega)
  | @popEmpty _ _ w _ _ hw _ _ hch => exact setW_sdec w _ hw rfl rfl rfl rfl rfl (by simp [wt, hch] <;> omega)
  | @loc _ _ w _ hw hl => exact setW_sdec w _ hw rfl rfl rfl rfl hl.closed hl.wt_lt

theorem dec_ext (hp : PickOK pick) {F s F' t} (m : Ext c pick F s F' t) :
    DecG F s F' t := by
  have h := (sdec_ext hp m).dec
  -- no event takes an input or places one: `F' = F`
  cases m <;> exact h.decG _

theorem step_measure (hp : PickOK pick) (s : St) (ev : Ev) :
    Dec s (step c pick s ev) ∧ (effective s ev = true → SDec s (step c pick s ev)) := by
  refine ⟨((step_run s ev).decG (dec_ext hp)).dec, fun he => ?_⟩
  rcases step_ext (c := c) (pick := pick) s ev with ⟨t, m, r⟩ | ⟨hne, _⟩
  · exact (sdec_ext hp m).trans_dec (r.decG (dec_ext hp)).dec
  · rw [he] at hne; cases hne

theorem no_infinite_sdec (f : Nat → St) (h : ∀ i, SDec (f i) (f (i + 1))) : False := by
  -- strong induction on nc, inner on phi
  have key : ∀ n p i, nc (f i) = n → phi (f i) = p → False := by
    intro n
    induction n using Nat.strongRecOn with
    | _ n ihn =>
      intro p
      induction p using Nat.strongRecOn with
      | _ p ihp =>
        intro i hn hp
        rcases h i with h1 | ⟨h1, h2⟩
        · exact ihn (nc (f (i + 1))) (by omega) _ (i + 1) rfl rfl
        · exact ihp (phi (f (i + 1))) (by omega) (i + 1) (by omega) rfl
  exact key _ _ 0 rfl rfl

end PwVerif.Pool
