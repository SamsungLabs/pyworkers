import PwVerif.Lemmas.PySim
import PwVerif.Lemmas.PyLoopD
/-!
The abstract runs (`Lemmas/PySim.lean`) of a run-loop program around its loop: what the stub puts in place of the loop in
each of the three regions of landing points (before the loop, inside it, behind it), that the real loop does the same to
related states (from the two summaries of the loop, `loop_generic` and `loop_disturbed`), and what a finished abstract run
then says about the real run on `n` items (`delivered`, `Around.shape`, `Around.inLoop_tail`).
-/
namespace PwVerif.Py

/-- the state in which the abstract run expects to reach the loop: nothing written yet, counter at 0 -/
def headOK (b : St) : Bool := b.results.isEmpty && b.counter == 0 && b.inflight.isNone && !b.stop

/-- the loop is reached with no event pending (it landed before, or was lost): the undisturbed loop -/
def quietLoop (b : St) : Option (St × Out) :=
  if headOK b && b.left.isNone then some (b, .normal) else none

/-- the abstract run reaches the loop with no line event to go (the real one with `D1` more) -/
def atLoop (a₀ : Async) (needCtrl : Bool) (b : St) : Bool :=
  headOK b && b.left == some 0 && (!needCtrl || b.ctrlAlive) && b.async == a₀

def firedLoop (a₀ : Async) (needCtrl : Bool) (b : St) : Option (St × Out) :=
  if atLoop a₀ needCtrl b then
    some ({ b with left := none, terminateReq := firedReq a₀ b, ctrlAlive := firedCtrl a₀ b }, firedOut a₀)
  else none

/-- the loop is passed; the abstract run goes on with `after` line events to go -/
def passedLoop (a₀ : Async) (needCtrl : Bool) (after : Nat) (b : St) : Option (St × Out) :=
  if atLoop a₀ needCtrl b then some ({ b with left := some after }, .normal) else none

variable {n D1 D2 : Nat} {a : St} {b : St}

/-- what `headOK` says about the two states at the loop -/
structure AtHead (n : Nat) (a b : St) : Prop where
  inputs : a.inputs = List.replicate n .item ++ [.release]
  inflight : a.inflight = none
  stop : a.stop = false
  results : a.results = []
  counter : a.counter = 0
  resultsAbs : b.results = []
  counterAbs : b.counter = 0

theorem Sim.atHead (h : Sim n D1 D2 a ⟨b, .ahead⟩) (hb : headOK b = true) : AtHead n a b := by
  simp only [headOK, Bool.and_eq_true, List.isEmpty_iff, beq_iff_eq, Option.isNone_iff_eq_none, Bool.not_eq_true'] at hb
  obtain ⟨e1, e2, e3⟩ := h.ahead rfl
  exact ⟨e3, h.inflight.trans hb.1.2, h.stop.trans hb.2, e1.trans hb.1.1.1, e2.trans hb.1.1.2, hb.1.1.1, hb.1.1.2⟩

theorem sim_quietLoop {env : Env} {W : Stmt} {F : Nat} (hQ : QuietSummary env n F W) :
    LoopSim env W n D1 D2 F quietLoop := by
  intro a b st' o h hb f
  obtain ⟨hg, e⟩ := Option.ite_none_right_eq_some.mp hb
  cases e
  simp only [Bool.and_eq_true, Option.isNone_iff_eq_none] at hg
  have hd := h.atHead hg.1
  have hl : a.left = none := by rw [h.left]; simp [hg.2]
  exact ⟨_, loop_rule env W n F hQ f a hd.inputs hl hd.inflight hd.stop,
    { h with
      comms := fun _ => h.comms (by simp)
      left := by simp [hl, hg.2]
      ahead := fun h => nomatch h
      passed := fun _ => ⟨by simp [hd.results, hd.counter, hd.resultsAbs], by simp [hd.counter, hd.counterAbs], rfl⟩
      fired := fun h => nomatch h }⟩

section
variable {env : Env} {W : Stmt} {F L Lr : Nat} {a₀ : Async} {needCtrl : Bool}
  (hD : LoopSummary env a₀ n L Lr F W (CtrlAlive needCtrl))
include hD

omit hD in
theorem Sim.atLoop_spec (h : Sim n D1 D2 a ⟨b, .ahead⟩) (hg : atLoop a₀ needCtrl b = true) :
    AtHead n a b ∧ a.left = some D1 ∧ QuietC a₀ a ∧ CtrlAlive needCtrl a := by
  unfold atLoop at hg
  simp only [Bool.and_eq_true, beq_iff_eq, Bool.or_eq_true, Bool.not_eq_true'] at hg
  obtain ⟨⟨⟨g1, g2⟩, g3⟩, g4⟩ := hg
  have hd := h.atHead g1
  refine ⟨hd, by rw [h.left]; simp [g2, slack], ⟨hd.inflight, hd.stop, h.async.trans g4⟩, fun hn => ?_⟩
  rw [h.ctrlAlive]
  exact g3.resolve_left (by simp [hn])

theorem sim_firedLoop (hlt : D1 < loopLen n L Lr) : LoopSim env W n D1 D2 F (firedLoop a₀ needCtrl) := by
  intro a b st' o h hb f
  obtain ⟨hg, e⟩ := Option.ite_none_right_eq_some.mp hb
  cases e
  obtain ⟨hd, hl, hq, hx⟩ := h.atLoop_spec hg
  obtain ⟨j, hj, hres⟩ := loop_fire_prefix env a₀ n L Lr F W _ hD a D1 hd.inputs hl hlt hq hx
  have hne : (if firedOut a₀ = .normal then Phase.passed else Phase.fired) = .fired := by
    cases a₀ <;> simp [firedOut]
  rw [hne]
  exact ⟨_, loop_fire_rule env a₀ n L Lr F W _ hD f a hd.inputs (by simp [hl]) (by simpa [hl] using hlt) hq.inflight
      hq.stop hq.async hx,
    { h with
      comms := fun h => absurd rfl h
      inflight := hq.inflight.symm.trans h.inflight
      ctrlAlive := firedCtrl_congr a₀ h.ctrlAlive
      terminateReq := firedReq_congr a₀ h.terminateReq
      left := rfl
      ahead := fun h => nomatch h
      passed := fun h => nomatch h
      fired := fun _ => ⟨j, (loopEx env F a W).counter, hj, by simp [hres, hd.results, hd.counter, hd.resultsAbs],
        by simp [hd.counterAbs]⟩ }⟩

theorem sim_passedLoop {after : Nat} (hge : D1 = after + D2 + loopLen n L Lr) :
    LoopSim env W n D1 D2 F (passedLoop a₀ needCtrl after) := by
  intro a b st' o h hb f
  obtain ⟨hg, e⟩ := Option.ite_none_right_eq_some.mp hb
  cases e
  obtain ⟨hd, hl, hq, hx⟩ := h.atLoop_spec hg
  exact ⟨_, loop_pass_rule env a₀ n L Lr F W _ hD f a hd.inputs (by simp [hl]) (by simp [hl]; omega) hq.inflight hq.stop
      hq.async hx,
    { h with
      comms := fun _ => h.comms (by simp)
      left := by simp [hl, slack]; omega
      ahead := fun h => nomatch h
      passed := fun _ => ⟨by simp [hd.results, hd.counter, hd.resultsAbs], by simp [hd.counter, hd.counterAbs], rfl⟩
      fired := fun h => nomatch h }⟩
end

/-- what a reader of the results pipe can see after a run on `n` items: result messages with counters `1..j` for some
    `j ≤ n`, in order, then nothing or exactly one end marker (and the interpreter did not run out of fuel) -/
def StreamShape (n : Nat) (r : St × Out) : Prop :=
  r.2 ≠ .fuel ∧ ∃ j, j ≤ n ∧ (r.1.results = itemsFrom 0 j ∨ ∃ e, r.1.results = itemsFrom 0 j ++ [.endMarker e])

/-- the stream ends: result messages with counters `1..j`, `j ≤ n`, then exactly one end marker -/
def StreamEnds (n : Nat) (r : St × Out) : Prop :=
  r.2 ≠ .fuel ∧ ∃ j, j ≤ n ∧ ∃ e, r.1.results = itemsFrom 0 j ++ [.endMarker e]

theorem StreamEnds.shape {n : Nat} {r : St × Out} (h : StreamEnds n r) : StreamShape n r :=
  let ⟨h1, j, hj, e, he⟩ := h
  ⟨h1, j, hj, Or.inr ⟨e, he⟩⟩

/-- the abstract run ended, having written exactly one end marker or - if `orNothing` - nothing -/
def tailOK (orNothing : Bool) : Option (AbsSt × Out) → Bool
  | some (b, o) => o != .fuel && (match b.st.results with | [] => orNothing | [.endMarker _] => true | _ => false)
  | none => false

theorem Msg.map_bump_zero (l : List Msg) : l.map (Msg.bump 0) = l := by
  induction l with
  | nil => rfl
  | cons m l ih => cases m <;> simp [Msg.bump, ih]

theorem Sim.results_prefix {b : AbsSt} (h : Sim n D1 D2 a b) :
    ∃ j k, j ≤ n ∧ a.results = itemsFrom 0 j ++ b.st.results.map (Msg.bump k) := by
  cases hph : b.phase with
  | ahead => exact ⟨0, 0, Nat.zero_le _, by rw [Msg.map_bump_zero]; exact (h.ahead hph).1⟩
  | passed => exact ⟨n, n, Nat.le_refl _, (h.passed hph).1⟩
  | fired =>
    obtain ⟨j, k, hj, e, _⟩ := h.fired hph
    exact ⟨j, k, hj, e⟩

/-- the abstract run of a program from its first line. Fuel 120 is more than the nesting depth plus the longest block of
    the regenerated programs need; with too little the run is `none` and the tables below are false. -/
def runAbs (env : Env) (p : Stub) (prog : List Stmt) (k : Option Nat) (a₀ : Async) : Option (AbsSt × Out) :=
  execBlockAbs env p 120 ⟨{ left := k, async := a₀ }, .ahead⟩ prog

/-- the run of a program on `n` items and the release marker, the event `a₀` after `k` line events (`none`: no event) -/
def runOn (env : Env) (prog : List Stmt) (F n : Nat) (k : Option Nat) (a₀ : Async) : St × Out :=
  execBlock env F { inputs := List.replicate n .item ++ [.release], left := k, async := a₀ } prog

section
variable {env : Env} {prog : List Stmt} {W : Stmt} {p : Stub} {G : Nat} {k kB : Option Nat} {a₀ : Async}
  (hW : onlyLoopL W prog) (h1 : p.strict1 = false → D1 = 0) (h2 : p.strict2 = false → D2 = 0)
  (hloop : LoopSim env W n D1 D2 G p.loop)
  (hk : k = kB.map (· + D1))
include hW h1 h2 hloop hk
-- (`k`: where the event lands in the real run; `kB`: where it lands in the abstract one, `D1` line events earlier)

theorem runOn_of_runAbs {b' : AbsSt} {o : Out} (hr : runAbs env p prog kB a₀ = some (b', o)) (ho : o ≠ .fuel) :
    ∃ a', Sim n D1 D2 a' b' ∧ ∀ F, G + 120 ≤ F → runOn env prog F n k a₀ = (a', o) := by
  have hinit : Sim n D1 D2 { inputs := List.replicate n .item ++ [.release], left := k, async := a₀ }
      ⟨{ left := kB, async := a₀ }, .ahead⟩ :=
    { cur := rfl, result := rfl, var := rfl, comms := fun _ => ⟨rfl, rfl⟩, inflight := rfl, async := rfl, commsClosed := rfl,
      stop := rfl, cleaned := rfl, ctrlAlive := rfl, terminateReq := rfl, left := by simp [hk, slack],
      ahead := fun _ => ⟨rfl, rfl, rfl⟩, passed := (fun h => nomatch h), fired := (fun h => nomatch h) }
  obtain ⟨a', e, hs⟩ := (sim env p W n D1 D2 G h1 h2 hloop 120).2.1 prog _ b' o hW hr _ hinit
  exact ⟨a', hs, execBlock_mono env e ho⟩

theorem tail_of_runAbs {orNothing : Bool} (ht : tailOK orNothing (runAbs env p prog kB a₀) = true) :
    ∃ F0, ∀ F, F0 ≤ F → (runOn env prog F n k a₀).2 ≠ .fuel ∧ ∃ j, j ≤ n ∧
      ((orNothing = true ∧ (runOn env prog F n k a₀).1.results = itemsFrom 0 j) ∨
        ∃ e, (runOn env prog F n k a₀).1.results = itemsFrom 0 j ++ [.endMarker e]) := by
  cases hr : runAbs env p prog kB a₀ with
  | none => simp [hr, tailOK] at ht
  | some r =>
    obtain ⟨b', o⟩ := r
    simp only [hr, tailOK, Bool.and_eq_true, bne_iff_ne, ne_eq] at ht
    obtain ⟨a', hs, hrun⟩ := runOn_of_runAbs hW h1 h2 hloop hk hr ht.1
    obtain ⟨j, c, hj, hres⟩ := hs.results_prefix
    refine ⟨G + 120, fun F hF => ?_⟩
    rw [hrun F hF]
    refine ⟨ht.1, j, hj, ?_⟩
    split at ht
    · rename_i hb; exact Or.inl ⟨ht.2, by simpa [hb] using hres⟩
    · rename_i e hb; exact Or.inr ⟨e + c, by simpa [hb, Msg.bump] using hres⟩
    · exact absurd ht.2 (by simp)

theorem streamShape_of_runAbs (ht : tailOK true (runAbs env p prog kB a₀) = true) :
    ∃ F0, ∀ F, F0 ≤ F → StreamShape n (runOn env prog F n k a₀) :=
  let ⟨F0, h⟩ := tail_of_runAbs hW h1 h2 hloop hk ht
  ⟨F0, fun F hF => let ⟨ho, j, hj, hr⟩ := h F hF; ⟨ho, j, hj, hr.imp And.right id⟩⟩

theorem streamEnds_of_runAbs (ht : tailOK false (runAbs env p prog kB a₀) = true) :
    ∃ F0, ∀ F, F0 ≤ F → StreamEnds n (runOn env prog F n k a₀) :=
  let ⟨F0, h⟩ := tail_of_runAbs hW h1 h2 hloop hk ht
  ⟨F0, fun F hF => let ⟨ho, j, hj, hr⟩ := h F hF; ⟨ho, j, hj, hr.resolve_left (by simp)⟩⟩
end

/-- every landing point before the loop: the event lands there or is lost, the loop - if it is reached - is undisturbed -/
def earlyOK (env : Env) (prog : List Stmt) (P : Nat) (cov : List Async) : Bool :=
  (List.range P).all fun K => cov.all fun a₀ => tailOK true (runAbs env ⟨false, false, quietLoop⟩ prog (some K) a₀)

/-- the event lands inside the loop: the abstract run reaches it after exactly `P` line events and may not let the event
    land before (`strict1`); a graceful stop must still end the stream -/
def firedOK (env : Env) (prog : List Stmt) (P : Nat) (cov : List Async) (needCtrl : Bool) : Bool :=
  cov.all fun a₀ => tailOK (a₀ == .kill) (runAbs env ⟨true, false, firedLoop a₀ needCtrl⟩ prog (some P) a₀)

/-- the loop is passed and the event lands `m < S` line events later, or (row `m = S`, `strict2`) not before the end of
    the run: that row is refused unless the abstract run ends within `S` line events behind the loop, so it also certifies
    `S` -/
def lateOK (env : Env) (prog : List Stmt) (P S : Nat) (cov : List Async) (needCtrl : Bool) : Bool :=
  cov.all fun a₀ => (List.range (S + 1)).all fun m =>
    tailOK true (runAbs env ⟨true, m == S, passedLoop a₀ needCtrl m⟩ prog (some P) a₀)

/-- no event: the abstract run passes the loop and ends normally with one end marker; `chk`: what else is claimed of
    its final state (the outcome recorded or sent to the parent) -/
def quietOK (env : Env) (prog : List Stmt) (chk : St → Bool) : Bool :=
  match runAbs env ⟨false, false, quietLoop⟩ prog none .kill with
  | some (b, .normal) => b.phase == .passed && b.st.results == [.endMarker 0] && b.st.counter == 0 && chk b.st
  | _ => false

/-- **the undisturbed run on any number of items**: all `n` result messages, then the end marker carrying `n`; what was
    sent to the parent and the outcome recorded are those of the abstract run -/
theorem delivered {env : Env} {prog : List Stmt} {W : Stmt} (hW : onlyLoopL W prog) (hQ : ∀ n, ∃ F, QuietSummary env n F W)
    {chk : St → Bool} (ht : quietOK env prog chk = true) (n : Nat) :
    ∃ F0 a' b', chk b' = true ∧ a'.result = b'.result ∧ a'.comms = b'.comms ∧
      a'.results = itemsFrom 0 n ++ [.endMarker n] ∧ a'.counter = n ∧ a'.inputs = [] ∧
      ∀ F, F0 ≤ F → runOn env prog F n none .kill = (a', .normal) := by
  obtain ⟨F, hF⟩ := hQ n
  unfold quietOK at ht
  split at ht
  · rename_i b hr
    simp only [Bool.and_eq_true, beq_iff_eq] at ht
    obtain ⟨⟨⟨hph, hres⟩, hcnt⟩, hchk⟩ := ht
    obtain ⟨a', hs, hrun⟩ := runOn_of_runAbs (D1 := 0) (D2 := 0) (n := n) hW (fun _ => rfl) (fun _ => rfl)
      (sim_quietLoop hF) rfl hr (by simp)
    obtain ⟨e1, e2, e3⟩ := hs.passed hph
    exact ⟨_, a', b.st, hchk, hs.result, (hs.comms (by simp [hph])).1, by simpa [hres, Msg.bump] using e1,
      by simpa [hcnt] using e2, e3, hrun⟩
  · cases ht

/-- What has to be shown about a program with loop `W` - `P` line events before it, `S` after it, passes of `L + 1` and
    `Lr + 1` line events - for the events `cov`: the two summaries of the loop (by induction on the number of items,
    `loop_generic` and `loop_disturbed`) and the abstract runs from every landing point outside it (finite). -/
structure Around (env : Env) (prog : List Stmt) (W : Stmt) (L Lr P S : Nat) (cov : List Async) (needCtrl : Bool) :
    Prop where
  onlyLoop : onlyLoopL W prog
  quiet : ∀ n, ∃ F, QuietSummary env n F W
  disturbed : ∀ a₀ ∈ cov, ∀ n, ∃ F, LoopSummary env a₀ n L Lr F W (CtrlAlive needCtrl)
  early : earlyOK env prog P cov = true
  fired : firedOK env prog P cov needCtrl = true
  late : lateOK env prog P S cov needCtrl = true

section
variable {env : Env} {prog : List Stmt} {W : Stmt} {L Lr P S : Nat} {cov : List Async} {needCtrl : Bool}
  (h : Around env prog W L Lr P S cov needCtrl) {a₀ : Async} (ha : a₀ ∈ cov) (n : Nat)
include h ha

theorem Around.early_shape (K : Nat) (hK : K < P) : ∃ F0, ∀ F, F0 ≤ F → StreamShape n (runOn env prog F n (some K) a₀) := by
  obtain ⟨F, hF⟩ := h.quiet n
  have ht := h.early
  simp only [earlyOK, List.all_eq_true, List.mem_range] at ht
  exact streamShape_of_runAbs (D1 := 0) (D2 := 0) h.onlyLoop (fun _ => rfl) (fun _ => rfl)
    (sim_quietLoop hF) rfl (ht K hK a₀ ha)

/-- inside the loop - in any pass, at any line: a kill leaves a prefix, a graceful stop still ends the stream with exactly
    one end marker -/
theorem Around.inLoop_tail (m : Nat) (hm : m < loopLen n L Lr) :
    (∃ F0, ∀ F, F0 ≤ F → StreamShape n (runOn env prog F n (some (P + m)) a₀)) ∧
    (a₀ ≠ .kill → ∃ F0, ∀ F, F0 ≤ F → StreamEnds n (runOn env prog F n (some (P + m)) a₀)) := by
  obtain ⟨F, hF⟩ := h.disturbed a₀ ha n
  have ht := h.fired
  simp only [firedOK, List.all_eq_true] at ht
  have hloop : LoopSim env W n m 0 F (firedLoop a₀ needCtrl) := sim_firedLoop hF hm
  have ht := ht a₀ ha
  by_cases hk : a₀ = .kill
  · rw [hk, beq_self_eq_true, ← hk] at ht
    exact ⟨streamShape_of_runAbs h.onlyLoop (by simp) (fun _ => rfl) hloop rfl ht, fun hne => absurd hk hne⟩
  · rw [beq_eq_false_iff_ne.mpr hk] at ht
    have he := streamEnds_of_runAbs (n := n) h.onlyLoop (by simp) (fun _ => rfl) hloop rfl ht
    exact ⟨let ⟨F0, hF0⟩ := he; ⟨F0, fun F hF' => (hF0 F hF').shape⟩, fun _ => he⟩

/-- behind the loop: `D1 = m + loopLen` more line events before it, none more behind it - or `m - S` more for an event
    that does not land before the end of the run, where the abstract run (row `S` of the table) is strict -/
theorem Around.late_shape (m : Nat) : ∃ F0, ∀ F, F0 ≤ F → StreamShape n (runOn env prog F n (some (P + (m + loopLen n L Lr))) a₀) := by
  obtain ⟨F, hF⟩ := h.disturbed a₀ ha n
  have ht := h.late
  simp only [lateOK, List.all_eq_true, List.mem_range] at ht
  by_cases hm : m < S
  · have hne : (m == S) = false := by simp; omega
    have := ht a₀ ha m (by omega)
    rw [hne] at this
    exact streamShape_of_runAbs (D1 := m + loopLen n L Lr) (D2 := 0) h.onlyLoop (by simp) (fun _ => rfl)
      (sim_passedLoop hF (by omega)) rfl this
  · have := ht a₀ ha S (by omega)
    rw [beq_self_eq_true] at this
    exact streamShape_of_runAbs (D1 := m + loopLen n L Lr) (D2 := m - S) h.onlyLoop (by simp) (by simp)
      (sim_passedLoop hF (by omega)) rfl this

theorem Around.shape (K : Nat) : ∃ F0, ∀ F, F0 ≤ F → StreamShape n (runOn env prog F n (some K) a₀) := by
  by_cases hK : K < P
  · exact h.early_shape ha n K hK
  · obtain ⟨m, rfl⟩ : ∃ m, K = P + m := ⟨K - P, by omega⟩
    by_cases hm : m < loopLen n L Lr
    · exact (h.inLoop_tail ha n m hm).1
    · obtain ⟨m2, rfl⟩ : ∃ m2, m = m2 + loopLen n L Lr := ⟨m - loopLen n L Lr, by omega⟩
      exact h.late_shape ha n m2
end
end PwVerif.Py
