import PwVerif.Model.Stream
/-! Family S: what the child's loop writes, as an explicit list - the results of the inputs it got through (`sent`),
    then the end marker, or nothing more when it was killed. C05 reads the run without a stop off `childLoop_none`,
    C06 the stopped one off `childLoop_stop`. -/
namespace PwVerif.Stream

/-- the result messages for the inputs `l`, numbered from `c + 1` -/
def sent (f : Target) (d : List Nat) (kd : List (Nat × Nat)) (c : Nat) : List Enq → List Msg
  | [] => []
  | e :: l => .item (c + 1) (value f d kd e) :: sent f d kd (c + 1) l

variable (f : Target) (d : List Nat) (kd : List (Nat × Nat))

theorem items_sent (c : Nat) (l : List Enq) (t : List Msg) :
    items (sent f d kd c l ++ t) = l.map (value f d kd) ++ items t := by
  induction l generalizing c with
  | nil => rfl
  | cons e l ih => simp [sent, items, ih]

theorem counters_sent (c : Nat) (l : List Enq) (t : List Msg) :
    counters (sent f d kd c l ++ t) = List.range' (c + 1) l.length ++ counters t := by
  induction l generalizing c with
  | nil => rfl
  | cons e l ih => simp [sent, counters, ih, List.range'_succ]

theorem sent_items (c : Nat) (l : List Enq) : ∀ m ∈ sent f d kd c l, ∃ k v, m = .item k v := by
  induction l generalizing c with
  | nil => nofun
  | cons e l ih => exact List.forall_mem_cons.mpr ⟨⟨_, _, rfl⟩, ih _⟩

theorem childLoop_none (ins : List Enq) (c : Nat) :
    childLoop f d kd ins c none =
      { msgs := sent f d kd c ins ++ [.endMarker (c + ins.length)], counter := c + ins.length } := by
  induction ins generalizing c with
  | nil => rfl
  | cons e rest ih => simp [childLoop, ih, sent, Nat.add_assoc, Nat.add_comm 1]

/-- the run without a stop, read by the parent: every value, the counters `1..n`, the final counter -/
theorem childRun_none (ins : List Enq) :
    items (childRun f d kd ins none).msgs = ins.map (value f d kd) ∧
    counters (childRun f d kd ins none).msgs = (List.range ins.length).map (· + 1) ∧
    (childRun f d kd ins none).counter = ins.length := by
  simp [childRun, childLoop_none, items_sent, counters_sent, items, counters, List.range'_eq_map_range,
    Nat.add_comm]

/-- A stop in iteration `n` leaves the results of the first `n` inputs (of all, if there are fewer), followed by
    one end marker unless the stop was a kill that came in time. -/
theorem childLoop_stop (ins : List Enq) (c n : Nat) (p : Phase) (how : Stop) :
    ∃ t c', childLoop f d kd ins c (some (n, p, how)) = { msgs := sent f d kd c (ins.take n) ++ t, counter := c' } ∧
      ((∃ e, t = [.endMarker e]) ∨ (t = [] ∧ how = .killed)) := by
  induction ins generalizing c n with
  | nil => exact ⟨[.endMarker c], c, by simp [childLoop, sent], .inl ⟨_, rfl⟩⟩
  | cons e rest ih =>
    cases n with
    | zero =>
      cases how
      · exact ⟨_, _, rfl, .inl ⟨_, rfl⟩⟩
      · exact ⟨_, _, rfl, .inr ⟨rfl, rfl⟩⟩
    | succ n =>
      obtain ⟨t, c', h, ht⟩ := ih (c + 1) n
      exact ⟨t, c', by simp [childLoop, h, sent], ht⟩

end PwVerif.Stream
