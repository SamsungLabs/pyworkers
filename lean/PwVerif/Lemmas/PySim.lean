import PwVerif.Lemmas.PyLoop
/-!
The statements *around* the loop of a run-loop program do not care how many items went through the loop.

`execAbs` is the interpreter of `Model/Py.lean` run on a closed state, with the loop replaced by a summary of what it
does to the fields the code around it reads (`Stub.loop`), and refusing (`none`) whatever would make the abstract
run differ from a real one (`lineAbs`, `actsAbs`, `condAbs`). `sim`: a real run on `n` items related to an abstract run
by `Sim` stays related to it, provided the real loop does to related states what the stub says. What remains to be
shown about a program is then finite: the abstract runs from every landing point outside the loop.
-/
namespace PwVerif.Py

mutual
/-- every loop of the statement is `W` -/
def onlyLoop (W : Stmt) : Stmt → Prop
  | .line _ _ => True
  | .ret _ _ => True
  | .brk _ => True
  | .call _ body _ => onlyLoopL W body
  | .ifS _ _ thn els => onlyLoopL W thn ∧ onlyLoopL W els
  | .whileS ln c body => .whileS ln c body = W
  | .tryS _ body hs fin => onlyLoopL W body ∧ onlyLoopH W hs ∧ onlyLoopL W fin
def onlyLoopL (W : Stmt) : List Stmt → Prop
  | [] => True
  | s :: rest => onlyLoop W s ∧ onlyLoopL W rest
def onlyLoopH (W : Stmt) : List (Catch × Nat × List Stmt) → Prop
  | [] => True
  | (_, _, body) :: rest => onlyLoopL W body ∧ onlyLoopH W rest
end

inductive Phase where
  | ahead | passed | fired
deriving DecidableEq

structure AbsSt where
  st : St
  phase : Phase := .ahead

structure Stub where
  /-- the real run has more line events to go than the abstract one before (`strict1`) / behind (`strict2`) the loop: the
      event must not land there -/
  strict1 : Bool
  strict2 : Bool
  loop : St → Option (St × Out)

def Stub.strict (p : Stub) : Phase → Bool
  | .ahead => p.strict1
  | .passed => p.strict2
  | .fired => false

def lineAbs (p : Stub) (b : AbsSt) (ln : Nat) : Option (AbsSt × Option Out) :=
  if b.st.left = some 0 ∧ p.strict b.phase = true then none
  else match lineEvent b.st ln with
    | (st, o) => some (⟨st, b.phase⟩, o)

/-- effects outside the loop: no input is received and the target is not called there; the counter is reset before the
    loop only -/
def actsAbs (env : Env) (b : AbsSt) (acts : List Act) : Option (AbsSt × Out) :=
  if acts.contains .recvArgs ∨ acts.contains .callTarget ∨ (acts.contains .initCounter ∧ b.phase ≠ .ahead) then none
  else match doActs env b.st acts with
    | (st, o) => some (⟨st, b.phase⟩, o)

def condAbs (env : Env) (b : AbsSt) (c : Cond) : Option Bool :=
  if c = .extraNone then none else some (evalCond b.st env c)

/-- every statement but the loop begins with a line event: the event may land there, else the statement goes on (`k`) -/
def headAbs (p : Stub) (b : AbsSt) (ln : Nat) (k : AbsSt → Option (AbsSt × Out)) : Option (AbsSt × Out) :=
  match lineAbs p b ln with
  | none => none
  | some (b, some o) => some (b, o)
  | some (b, none) => k b

mutual
def execAbs (env : Env) (p : Stub) : Nat → AbsSt → Stmt → Option (AbsSt × Out)
  | 0, _, _ => none
  | fuel + 1, b, s =>
    match s with
    | .line ln acts => headAbs p b ln fun b => actsAbs env b acts
    | .ret ln acts => headAbs p b ln fun b =>
        match actsAbs env b acts with
        | some (b, .normal) => some (b, .returned)
        | r => r
    | .brk ln => headAbs p b ln fun b => some (b, .broke)
    | .call ln body after => headAbs p b ln fun b =>
        match execBlockAbs env p fuel b body with
        | some (b, .normal) => actsAbs env b after
        | some (b, .returned) => actsAbs env b after
        | r => r
    | .ifS ln c thn els => headAbs p b ln fun b =>
        match condAbs env b c with
        | none => none
        | some true => execBlockAbs env p fuel b thn
        | some false => execBlockAbs env p fuel b els
    | .whileS _ _ _ =>
      if b.phase = .ahead then
        match p.loop b.st with
        | none => none
        | some (st, o) => some (⟨st, if o = .normal then .passed else .fired⟩, o)
      else none
    | .tryS ln body handlers fin => headAbs p b ln fun b =>
        match execBlockAbs env p fuel b body with
        | none => none
        | some (b, o) =>
          match (match o with
                 | .raised e => execHandlersAbs env p fuel b e handlers
                 | _ => some (b, o)) with
          | none => none
          | some (b, o) =>
            match o with
            | .killed => some (b, o)
            | .stuck => some (b, o)
            | .fuel => some (b, o)
            | _ =>
              match execBlockAbs env p fuel b fin with
              | some (b, .normal) => some (b, o)
              | r => r
def execBlockAbs (env : Env) (p : Stub) : Nat → AbsSt → List Stmt → Option (AbsSt × Out)
  | 0, _, _ => none
  | _ + 1, b, [] => some (b, .normal)
  | fuel + 1, b, s :: rest =>
    match execAbs env p fuel b s with
    | some (b, .normal) => execBlockAbs env p fuel b rest
    | r => r
def execHandlersAbs (env : Env) (p : Stub) : Nat → AbsSt → Exc → List (Catch × Nat × List Stmt) → Option (AbsSt × Out)
  | 0, _, _, _ => none
  | _ + 1, b, e, [] => some (b, .raised e)
  | fuel + 1, b, e, (c, ln, body) :: rest => headAbs p b ln fun b =>
      if c.catches e then execBlockAbs env p fuel { b with st := { b.st with cur := some e } } body
      else execHandlersAbs env p fuel b e rest
end

def Msg.bump (k : Nat) : Msg → Msg
  | .item c => .item (c + k)
  | .endMarker c => .endMarker (c + k)
  | m => m

/-- how many more line events the real run has to go before the event lands -/
def slack (D1 D2 : Nat) : Phase → Nat
  | .ahead => D1
  | .passed => D2
  | .fired => 0

/-- A real state `a` of a run on `n` items and an abstract state `b`: they agree on everything that decides where
    control goes; the real run has `D1` (before the loop) / `D2` (behind it) more line events to go before the event
    lands; behind the loop the real results are the first `j` result messages - all `n` if the loop was passed -
    followed by what the abstract run has written since, with counters as much higher as the real counter is. The trace
    and - once the event has landed in the loop - the inputs are not compared. -/
structure Sim (n D1 D2 : Nat) (a : St) (b : AbsSt) : Prop where
  cur : a.cur = b.st.cur
  result : a.result = b.st.result
  var : a.var = b.st.var
  /-- (`ustate` goes into messages to the parent; once the event has fired in the loop nothing is known of either:
      `Fired` says nothing about `ustate`) -/
  comms : b.phase ≠ .fired → a.comms = b.st.comms ∧ a.ustate = b.st.ustate
  inflight : a.inflight = b.st.inflight
  async : a.async = b.st.async
  commsClosed : a.commsClosed = b.st.commsClosed
  stop : a.stop = b.st.stop
  cleaned : a.cleaned = b.st.cleaned
  ctrlAlive : a.ctrlAlive = b.st.ctrlAlive
  terminateReq : a.terminateReq = b.st.terminateReq
  left : a.left = b.st.left.map (· + slack D1 D2 b.phase)
  ahead : b.phase = .ahead → a.results = b.st.results ∧ a.counter = b.st.counter ∧
    a.inputs = List.replicate n .item ++ [.release]
  passed : b.phase = .passed → a.results = itemsFrom 0 n ++ b.st.results.map (Msg.bump n) ∧
    a.counter = b.st.counter + n ∧ a.inputs = []
  fired : b.phase = .fired → ∃ j k, j ≤ n ∧
    a.results = itemsFrom 0 j ++ b.st.results.map (Msg.bump k) ∧ a.counter = b.st.counter + k

variable {n D1 D2 : Nat} {a : St} {b : AbsSt} {p : Stub}

/-- the fields a line event reads or writes: the trace, where the exception was raised, and five that `Sim` compares; states
    that differ from related ones in these alone are related when the five agree -/
theorem Sim.frameLine (h : Sim n D1 D2 a b) {t t' : List Nat} {r r' : Option Nat} {l l' i i' : Option Nat} {s s' : Async}
    {q q' c c' : Bool} (hl : l = l'.map (· + slack D1 D2 b.phase)) (hi : i = i') (hs : s = s') (hq : q = q') (hc : c = c') :
    Sim n D1 D2 { a with rtrace := t, raisedAt := r, left := l, inflight := i, async := s, terminateReq := q, ctrlAlive := c }
      ⟨{ b.st with rtrace := t', raisedAt := r', left := l', inflight := i', async := s', terminateReq := q',
                   ctrlAlive := c' }, b.phase⟩ :=
  { h with inflight := hi, async := hs, ctrlAlive := hc, terminateReq := hq, left := hl }

theorem Sim.line (h : Sim n D1 D2 a b) (h1 : p.strict1 = false → D1 = 0) (h2 : p.strict2 = false → D2 = 0)
    {ln : Nat} {b' : AbsSt} {o : Option Out} (hb : lineAbs p b ln = some (b', o)) :
    ∃ a', lineEvent a ln = (a', o) ∧ Sim n D1 D2 a' b' := by
  refine ⟨(lineEvent a ln).1, ?_⟩
  obtain ⟨hns, hb⟩ := Option.ite_none_left_eq_some.mp hb
  simp only [Option.some.injEq, Prod.mk.injEq] at hb
  obtain ⟨rfl, rfl⟩ := hb
  -- where the abstract run lets the event land, the real run has no line event more to go
  have hD : b.st.left = some 0 → slack D1 D2 b.phase = 0 := by
    intro hl
    cases hph : b.phase <;> simp_all [Stub.strict, slack]
  -- with the fields it reads rewritten, the real line event takes the branch the abstract one takes, and the two states
  -- change alike in the fields `Sim.frameLine` lists
  unfold lineEvent
  simp only [h.inflight, h.left, h.async, h.ctrlAlive, h.terminateReq]
  cases hi : b.st.inflight with
  | some i => cases i <;> exact ⟨rfl, h.frameLine rfl rfl rfl rfl rfl⟩
  | none =>
    cases hl : b.st.left with
    | none => exact ⟨rfl, h.frameLine rfl rfl rfl rfl rfl⟩
    | some k =>
      cases k with
      | succ k =>
        simp only [Option.map_some, Nat.add_right_comm k 1]
        exact ⟨trivial, h.frameLine rfl rfl rfl rfl rfl⟩
      | zero =>
        simp only [hD hl, Option.map_some, Nat.zero_add]
        cases b.st.async with
        | kill => exact ⟨rfl, h.frameLine rfl rfl rfl rfl rfl⟩
        | raiseWte via =>
          simp only []
          split <;> exact ⟨rfl, h.frameLine rfl rfl rfl rfl rfl⟩
        | deferred d =>
          simp only []
          split <;> exact ⟨rfl, h.frameLine rfl rfl rfl rfl rfl⟩

/-- the fields that the effects without a case of their own in `Sim.act` read or write; what they send to the parent (`m`)
    may differ once the event has fired in the loop -/
theorem Sim.frameAct (h : Sim n D1 D2 a b) {e e' : Option Exc} {r r' v v' : Option (Option Exc)} {m m' : List Msg}
    {cc cc' cl cl' c c' : Bool} {i i' : Option Nat} {ra ra' : Option Nat}
    (he : e = e') (hr : r = r') (hv : v = v') (hm : b.phase ≠ .fired → m = m') (hcc : cc = cc') (hcl : cl = cl') (hc : c = c')
    (hi : i = i') :
    Sim n D1 D2 { a with cur := e, result := r, var := v, comms := m, commsClosed := cc, cleaned := cl, ctrlAlive := c,
                         inflight := i, raisedAt := ra }
      ⟨{ b.st with cur := e', result := r', var := v', comms := m', commsClosed := cc', cleaned := cl', ctrlAlive := c',
                   inflight := i', raisedAt := ra' }, b.phase⟩ :=
  { h with cur := he, result := hr, var := hv, comms := fun hp => ⟨hm hp, (h.comms hp).2⟩, inflight := hi, commsClosed := hcc,
           cleaned := hcl, ctrlAlive := hc }

theorem Sim.act (h : Sim n D1 D2 a b) (env : Env) (act : Act) (h1 : act ≠ .recvArgs) (h2 : act ≠ .callTarget)
    (h3 : act = .initCounter → b.phase = .ahead) :
    (doAct env a act).2 = (doAct env b.st act).2 ∧
      Sim n D1 D2 (doAct env a act).1 { b with st := (doAct env b.st act).1 } := by
  cases act
  case recvArgs => exact absurd rfl h1
  case callTarget => exact absurd rfl h2
  case sendItem | sendEnd =>
    refine ⟨rfl, { h with ahead := ?_, passed := ?_, fired := ?_ }⟩
    · intro hb; obtain ⟨e1, e2, e3⟩ := h.ahead hb; exact ⟨by simp [doAct, e1, e2], e2, e3⟩
    · intro hb; obtain ⟨e1, e2, e3⟩ := h.passed hb; exact ⟨by simp [doAct, e1, e2, Msg.bump], e2, e3⟩
    · intro hb; obtain ⟨j, k, hj, e1, e2⟩ := h.fired hb
      exact ⟨j, k, hj, by simp [doAct, e1, e2, Msg.bump], e2⟩
  case bumpCounter =>
    refine ⟨rfl, { h with ahead := ?_, passed := ?_, fired := ?_ }⟩
    · intro hb; obtain ⟨e1, e2, e3⟩ := h.ahead hb; exact ⟨e1, by simp [doAct, e2], e3⟩
    · intro hb; obtain ⟨e1, e2, e3⟩ := h.passed hb; exact ⟨e1, by simp [doAct, e2]; omega, e3⟩
    · intro hb; obtain ⟨j, k, hj, e1, e2⟩ := h.fired hb
      exact ⟨j, k, hj, e1, by simp [doAct, e2]; omega⟩
  case initCounter =>
    have hph := h3 rfl
    refine ⟨rfl, { h with stop := rfl, ahead := ?_, passed := ?_, fired := ?_ }⟩
    · intro hb; obtain ⟨e1, e2, e3⟩ := h.ahead hb; exact ⟨e1, rfl, e3⟩
    · intro hb; rw [hph] at hb; cases hb
    · intro hb; rw [hph] at hb; cases hb
  -- every other effect: with the fields it reads rewritten, both states take the same branch and change alike in the
  -- fields `Sim.frameAct` lists
  all_goals
    simp only [doAct, h.cur, h.result, h.var, h.inflight, h.commsClosed, h.cleaned, h.ctrlAlive]
    repeat' split
    all_goals
      refine ⟨by trivial, h.frameAct ?_ ?_ ?_ (fun hp => by simp [h.comms hp]) ?_ ?_ ?_ ?_⟩
      all_goals simp only [h.cur, h.result, h.var, h.inflight, h.commsClosed, h.cleaned, h.ctrlAlive]

theorem Sim.acts (env : Env) (h : Sim n D1 D2 a b) {acts : List Act} {b' : AbsSt} {o : Out}
    (hb : actsAbs env b acts = some (b', o)) :
    ∃ a', doActs env a acts = (a', o) ∧ Sim n D1 D2 a' b' := by
  unfold actsAbs at hb
  split at hb
  · cases hb
  · rename_i hc
    simp only [not_or, Bool.not_eq_true, not_and, Decidable.not_not] at hc
    simp only [Option.some.injEq, Prod.mk.injEq] at hb
    obtain ⟨rfl, rfl⟩ := hb
    obtain ⟨hc1, hc2, hc3⟩ := hc
    induction acts generalizing a b with
    | nil => exact ⟨a, rfl, h⟩
    | cons act acts ih =>
      simp only [List.contains_cons, Bool.or_eq_false_iff, beq_eq_false_iff_ne, ne_eq, Bool.or_eq_true, beq_iff_eq] at hc1 hc2 hc3
      obtain ⟨ho, hs⟩ := h.act env act (Ne.symm hc1.1) (Ne.symm hc2.1) (fun e => hc3 (Or.inl e.symm))
      simp only [doActs]
      generalize doAct env a act = ra at ho hs
      generalize doAct env b.st act = rb at ho hs
      obtain ⟨a1, oa⟩ := ra
      obtain ⟨b1, ob⟩ := rb
      simp only at ho hs
      subst ho
      cases oa with
      | some o => exact ⟨a1, rfl, hs⟩
      | none => exact ih hs hc1.2 hc2.2 (fun hm => hc3 (Or.inr hm))

theorem Sim.cond (env : Env) (h : Sim n D1 D2 a b) {c : Cond} {v : Bool} (hb : condAbs env b c = some v) :
    evalCond a env c = v := by
  obtain ⟨hne, e⟩ := Option.ite_none_left_eq_some.mp hb
  cases e
  cases c <;> simp_all [evalCond, h.stop, h.cleaned, h.ctrlAlive, h.terminateReq]

theorem Sim.setCur (h : Sim n D1 D2 a b) (e : Exc) :
    Sim n D1 D2 { a with cur := some e } { b with st := { b.st with cur := some e } } :=
  { h with cur := rfl }

theorem Sim.head (h : Sim n D1 D2 a b) (h1 : p.strict1 = false → D1 = 0) (h2 : p.strict2 = false → D2 = 0)
    {ln : Nat} {KB : AbsSt → Option (AbsSt × Out)} {KA : St → St × Out} {b' : AbsSt} {o : Out}
    (hb : headAbs p b ln KB = some (b', o))
    (hK : ∀ a1 b1, Sim n D1 D2 a1 b1 → KB b1 = some (b', o) → ∃ a', KA a1 = (a', o) ∧ Sim n D1 D2 a' b') :
    ∃ a', (match lineEvent a ln with
          | (a, some o) => (a, o)
          | (a, none) => KA a) = (a', o) ∧ Sim n D1 D2 a' b' := by
  unfold headAbs at hb
  cases hl : lineAbs p b ln with
  | none => simp [hl] at hb
  | some r =>
    obtain ⟨b1, ol⟩ := r
    obtain ⟨a1, e1, s1⟩ := h.line h1 h2 hl
    rw [e1]
    cases ol with
    | some o' =>
      simp only [hl, Option.some.injEq, Prod.mk.injEq] at hb
      obtain ⟨rfl, rfl⟩ := hb
      exact ⟨a1, rfl, s1⟩
    | none =>
      simp only [hl] at hb
      exact hK a1 b1 s1 hb

/-- the one fact about the loop `W` that the simulation rests on: from related states the real loop, with fuel `G` or more,
    does what the stub `loop` says (the abstract run spends no fuel on the loop) -/
def LoopSim (env : Env) (W : Stmt) (n D1 D2 G : Nat) (loop : St → Option (St × Out)) : Prop :=
  ∀ (a b st' : St) (o : Out), Sim n D1 D2 a ⟨b, .ahead⟩ → loop b = some (st', o) →
    ∀ f, ∃ a', exec env (G + f) a W = (a', o) ∧ Sim n D1 D2 a' ⟨st', if o = .normal then .passed else .fired⟩

/-- **the simulation.** An abstract run with fuel `f` that ends (`some`) is matched, statement by statement, by the real run
    with fuel `G + f` from any related state: same outcome, related final states. Induction on `f`, then by the form of the
    statement; every form but the loop opens with `Sim.head`. -/
theorem sim (env : Env) (p : Stub) (W : Stmt) (n D1 D2 G : Nat)
    (h1 : p.strict1 = false → D1 = 0) (h2 : p.strict2 = false → D2 = 0) (hloop : LoopSim env W n D1 D2 G p.loop) :
    ∀ f,
      (∀ s b b' o, onlyLoop W s → execAbs env p f b s = some (b', o) → ∀ a, Sim n D1 D2 a b →
        ∃ a', exec env (G + f) a s = (a', o) ∧ Sim n D1 D2 a' b') ∧
      (∀ l b b' o, onlyLoopL W l → execBlockAbs env p f b l = some (b', o) → ∀ a, Sim n D1 D2 a b →
        ∃ a', execBlock env (G + f) a l = (a', o) ∧ Sim n D1 D2 a' b') ∧
      (∀ hs e b b' o, onlyLoopH W hs → execHandlersAbs env p f b e hs = some (b', o) → ∀ a, Sim n D1 D2 a b →
        ∃ a', execHandlers env (G + f) a e hs = (a', o) ∧ Sim n D1 D2 a' b') := by
  intro f
  induction f with
  | zero =>
    refine ⟨?_, ?_, ?_⟩
    · intro s b b' o _ hb; simp [execAbs] at hb
    · intro s b b' o _ hb; simp [execBlockAbs] at hb
    · intro s e b b' o _ hb; simp [execHandlersAbs] at hb
  | succ f ih =>
    obtain ⟨ihE, ihB, ihH⟩ := ih
    refine ⟨?_, ?_, ?_⟩
    · intro s b b' o hW hb a hs
      rw [← Nat.add_assoc]
      cases s with
      | whileS ln c body =>
        simp only [execAbs] at hb
        split at hb
        · rename_i hph
          cases hp : p.loop b.st with
          | none => simp [hp] at hb
          | some r =>
            obtain ⟨st', o'⟩ := r
            simp only [hp, Option.some.injEq, Prod.mk.injEq] at hb
            obtain ⟨rfl, rfl⟩ := hb
            simp only [onlyLoop] at hW
            rw [hW, Nat.add_assoc]
            have hs' : Sim n D1 D2 a ⟨b.st, .ahead⟩ := by rw [← hph]; exact hs
            exact hloop a b.st st' o' hs' hp (f + 1)
        · cases hb
      | line ln acts =>
        rw [exec_line]
        simp only [execAbs] at hb
        exact hs.head h1 h2 hb fun a1 b1 s1 hk => s1.acts env hk
      | brk ln =>
        rw [exec_brk]
        simp only [execAbs] at hb
        refine hs.head h1 h2 hb fun a1 b1 s1 hk => ?_
        simp only [Option.some.injEq, Prod.mk.injEq] at hk
        obtain ⟨rfl, rfl⟩ := hk
        exact ⟨a1, rfl, s1⟩
      | ret ln acts =>
        rw [exec_ret]
        simp only [execAbs] at hb
        refine hs.head h1 h2 hb fun a1 b1 s1 hk => ?_
        cases hacts : actsAbs env b1 acts with
        | none => simp [hacts] at hk
        | some r =>
          obtain ⟨b2, o2⟩ := r
          obtain ⟨a2, e2, s2⟩ := s1.acts env hacts
          rw [e2]
          rw [hacts] at hk
          -- whatever the outcome of the effects, both runs hand it on (`normal` as `returned`)
          cases o2
          all_goals
            simp only [Option.some.injEq, Prod.mk.injEq] at hk
            obtain ⟨rfl, rfl⟩ := hk
            exact ⟨a2, rfl, s2⟩
      | call ln body after =>
        rw [exec_call]
        simp only [execAbs, onlyLoop] at hb hW
        refine hs.head h1 h2 hb fun a1 b1 s1 hk => ?_
        cases hbody : execBlockAbs env p f b1 body with
        | none => simp [hbody] at hk
        | some r =>
          obtain ⟨b2, o2⟩ := r
          obtain ⟨a2, e2, s2⟩ := ihB body b1 b2 o2 hW hbody a1 s1
          rw [e2]
          rw [hbody] at hk
          cases o2 with
          | normal => exact s2.acts env hk
          | returned => exact s2.acts env hk
          | _ => simp only [Option.some.injEq, Prod.mk.injEq] at hk; obtain ⟨rfl, rfl⟩ := hk; exact ⟨a2, rfl, s2⟩
      | ifS ln c thn els =>
        rw [exec_ifS]
        simp only [execAbs, onlyLoop] at hb hW
        refine hs.head h1 h2 hb fun a1 b1 s1 hk => ?_
        cases hc : condAbs env b1 c with
        | none => simp [hc] at hk
        | some v =>
          rw [s1.cond env hc]
          rw [hc] at hk
          cases v with
          | true => exact ihB thn b1 b' o hW.1 hk a1 s1
          | false => exact ihB els b1 b' o hW.2 hk a1 s1
      | tryS ln body handlers fin =>
        rw [exec_tryS]
        simp only [execAbs, onlyLoop] at hb hW
        refine hs.head h1 h2 hb fun a1 b1 s1 hk => ?_
        -- the `finally` block, entered with outcome `o3` pending
        have hfin : ∀ (a3 : St) (b3 : AbsSt) (o3 : Out), Sim n D1 D2 a3 b3 →
            (match o3 with
              | .killed => some (b3, o3) | .stuck => some (b3, o3) | .fuel => some (b3, o3)
              | _ => match execBlockAbs env p f b3 fin with
                | some (b, .normal) => some (b, o3)
                | r => r) = some (b', o) →
            ∃ a', ((match o3 with
              | .killed => (a3, o3) | .stuck => (a3, o3) | .fuel => (a3, o3)
              | _ => match execBlock env (G + f) a3 fin with
                | (st, .normal) => (st, o3)
                | r => r : St × Out)) = (a', o) ∧ Sim n D1 D2 a' b' := by
          intro a3 b3 o3 s3 hk3
          have hrun : ∀ r, execBlockAbs env p f b3 fin = r →
              (match r with | some (b, .normal) => some (b, o3) | r => r) = some (b', o) →
              ∃ a', ((match execBlock env (G + f) a3 fin with | (st, .normal) => (st, o3) | r => r : St × Out)) = (a', o) ∧
                Sim n D1 D2 a' b' := by
            intro r hr hk4
            cases r with
            | none => simp at hk4
            | some r =>
              obtain ⟨b4, o4⟩ := r
              obtain ⟨a4, e4, s4⟩ := ihB fin b3 b4 o4 hW.2.2 hr a3 s3
              rw [e4]
              -- a `finally` block that ends normally leaves the pending outcome, any other end replaces it
              cases o4
              all_goals
                simp only [Option.some.injEq, Prod.mk.injEq] at hk4
                obtain ⟨rfl, rfl⟩ := hk4
                exact ⟨a4, rfl, s4⟩
          cases o3 with
          | killed | stuck | fuel =>
            simp only [Option.some.injEq, Prod.mk.injEq] at hk3; obtain ⟨rfl, rfl⟩ := hk3; exact ⟨a3, rfl, s3⟩
          | _ => exact hrun _ rfl hk3
        cases hbody : execBlockAbs env p f b1 body with
        | none => simp [hbody] at hk
        | some r =>
          obtain ⟨b2, o2⟩ := r
          obtain ⟨a2, e2, s2⟩ := ihB body b1 b2 o2 hW.1 hbody a1 s1
          rw [hbody] at hk
          simp only [e2]
          cases o2 with
          | raised e =>
            simp only at hk ⊢
            cases hH : execHandlersAbs env p f b2 e handlers with
            | none => simp [hH] at hk
            | some r =>
              obtain ⟨b3, o3⟩ := r
              obtain ⟨a3, e3, s3⟩ := ihH handlers e b2 b3 o3 hW.2.1 hH a2 s2
              rw [hH] at hk
              simp only [e3]
              exact hfin a3 b3 o3 s3 hk
          | normal => exact hfin a2 b2 .normal s2 hk
          | returned => exact hfin a2 b2 .returned s2 hk
          | broke => exact hfin a2 b2 .broke s2 hk
          | killed => exact hfin a2 b2 .killed s2 hk
          | stuck => exact hfin a2 b2 .stuck s2 hk
          | fuel => exact hfin a2 b2 .fuel s2 hk
    · intro l b b' o hW hb a hs
      rw [← Nat.add_assoc]
      cases l with
      | nil =>
        simp only [execBlockAbs, Option.some.injEq, Prod.mk.injEq] at hb
        obtain ⟨rfl, rfl⟩ := hb
        exact ⟨a, rfl, hs⟩
      | cons s rest =>
        simp only [execBlockAbs, onlyLoopL] at hb hW
        simp only [execBlock]
        cases hstep : execAbs env p f b s with
        | none => simp [hstep] at hb
        | some r =>
          obtain ⟨b1, o1⟩ := r
          obtain ⟨a1, e1, s1⟩ := ihE s b b1 o1 hW.1 hstep a hs
          rw [hstep] at hb
          rw [e1]
          cases o1 with
          | normal => exact ihB rest b1 b' o hW.2 hb a1 s1
          | _ => simp only [Option.some.injEq, Prod.mk.injEq] at hb; obtain ⟨rfl, rfl⟩ := hb; exact ⟨a1, rfl, s1⟩
    · intro hs e b b' o hW hb a hsim
      rw [← Nat.add_assoc]
      cases hs with
      | nil =>
        simp only [execHandlersAbs, Option.some.injEq, Prod.mk.injEq] at hb
        obtain ⟨rfl, rfl⟩ := hb
        exact ⟨a, rfl, hsim⟩
      | cons hd rest =>
        obtain ⟨c, ln, body⟩ := hd
        simp only [execHandlersAbs, onlyLoopH] at hb hW
        simp only [execHandlers]
        refine hsim.head h1 h2 hb fun a1 b1 s1 hk => ?_
        split at hk
        · rename_i hc
          rw [if_pos hc]
          exact ihB body _ b' o hW.1 hk _ (s1.setCur e)
        · rename_i hc
          rw [if_neg hc]
          exact ihH rest e b1 b' o hW.2 hk a1 s1
end PwVerif.Py
