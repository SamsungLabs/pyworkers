import PwVerif.Lemmas.PyAround
import PwVerif.Lemmas.LoopQuiet
import PwVerif.Lemmas.EvalNat
/-!
The three regenerated persistent programs under one asynchronous event: the hypotheses of `loop_disturbed`
(`Lemmas/PyLoopD.lean`) are discharged by symbolic evaluation of the generated loop body - one evaluation per landing point
inside a pass -, the tables of `Py.Around` (`Lemmas/PyAround.lean`) by the kernel. The numbers of line events of a pass
and around the loop are computed from the programs (`eval_nat%`, then proved by the kernel); no line number is quoted.
-/
namespace PwVerif.LoopK
open PwVerif.Py PwVerif.Gen

/-! `pthreadW` is `PKind.loop .thread` by unfolding, and so for the other two. The `_eq` theorems are what makes the numerals
    mean what they are called: `eval_nat%` is not trusted (`Lemmas/EvalNat.lean`). -/

def pthreadW : Stmt := (firstWhileL pthreadRun).getD (.brk 0)
def pthreadL : Nat := eval_nat% (passLen (bodyOf pthreadW) .item)
def pthreadLr : Nat := eval_nat% (passLen (bodyOf pthreadW) .release)
theorem pthreadL_eq : pthreadL = passLen (bodyOf pthreadW) .item := by decide +kernel
theorem pthreadLr_eq : pthreadLr = passLen (bodyOf pthreadW) .release := by decide +kernel
def pprocessW : Stmt := (firstWhileL pprocessRun).getD (.brk 0)
def pprocessL : Nat := eval_nat% (passLen (bodyOf pprocessW) .item)
def pprocessLr : Nat := eval_nat% (passLen (bodyOf pprocessW) .release)
theorem pprocessL_eq : pprocessL = passLen (bodyOf pprocessW) .item := by decide +kernel
theorem pprocessLr_eq : pprocessLr = passLen (bodyOf pprocessW) .release := by decide +kernel
def premoteW : Stmt := (firstWhileL premoteRun).getD (.brk 0)
def premoteL : Nat := eval_nat% (passLen (bodyOf premoteW) .item)
def premoteLr : Nat := eval_nat% (passLen (bodyOf premoteW) .release)
theorem premoteL_eq : premoteL = passLen (bodyOf premoteW) .item := by decide +kernel
theorem premoteLr_eq : premoteLr = passLen (bodyOf premoteW) .release := by decide +kernel

/-- line events of the program before the loop is reached / after it was left (run on the release marker alone) -/
def pthreadP : Nat := eval_nat% ((lineTrace pthreadRun {} [.release]).idxOf (lnOf pthreadW))
def pthreadS : Nat := eval_nat% ((lineTrace pthreadRun {} [.release]).length - (lineTrace pthreadRun {} [.release]).idxOf (lnOf pthreadW) - (passLen (bodyOf pthreadW) .release + 1))
theorem pthreadP_eq : pthreadP = (lineTrace pthreadRun {} [.release]).idxOf (lnOf pthreadW) := by decide +kernel
theorem pthreadS_eq : pthreadS = (lineTrace pthreadRun {} [.release]).length - (lineTrace pthreadRun {} [.release]).idxOf (lnOf pthreadW) - (passLen (bodyOf pthreadW) .release + 1) := by
  decide +kernel
def pprocessP : Nat := eval_nat% ((lineTrace pprocessRun {} [.release]).idxOf (lnOf pprocessW))
def pprocessS : Nat := eval_nat% ((lineTrace pprocessRun {} [.release]).length - (lineTrace pprocessRun {} [.release]).idxOf (lnOf pprocessW) - (passLen (bodyOf pprocessW) .release + 1))
theorem pprocessP_eq : pprocessP = (lineTrace pprocessRun {} [.release]).idxOf (lnOf pprocessW) := by decide +kernel
theorem pprocessS_eq : pprocessS = (lineTrace pprocessRun {} [.release]).length - (lineTrace pprocessRun {} [.release]).idxOf (lnOf pprocessW) - (passLen (bodyOf pprocessW) .release + 1) := by
  decide +kernel
def premoteP : Nat := eval_nat% ((lineTrace premoteRun {} [.release]).idxOf (lnOf premoteW))
def premoteS : Nat := eval_nat% ((lineTrace premoteRun {} [.release]).length - (lineTrace premoteRun {} [.release]).idxOf (lnOf premoteW) - (passLen (bodyOf premoteW) .release + 1))
theorem premoteP_eq : premoteP = (lineTrace premoteRun {} [.release]).idxOf (lnOf premoteW) := by decide +kernel
theorem premoteS_eq : premoteS = (lineTrace premoteRun {} [.release]).length - (lineTrace premoteRun {} [.release]).idxOf (lnOf premoteW) - (passLen (bodyOf premoteW) .release + 1) := by
  decide +kernel

end PwVerif.LoopK

namespace PwVerif.Py
open PwVerif.LoopK

namespace PKind

/-- line events of a pass over an item / the release marker, before / behind the loop -/
def L : PKind → Nat | .thread => pthreadL | .process => pprocessL | .remote => premoteL
def Lr : PKind → Nat | .thread => pthreadLr | .process => pprocessLr | .remote => premoteLr
def P : PKind → Nat | .thread => pthreadP | .process => pprocessP | .remote => premoteP
def S : PKind → Nat | .thread => pthreadS | .process => pprocessS | .remote => premoteS

/-- a thread worker has no control thread: `terminate()` raises in the working thread -/
def needCtrl : PKind → Bool | .thread => false | _ => true

/-- the events covered: `terminate()` (by either mechanism where there are two), or a kill -/
def cov (k : PKind) : List Async := if k.needCtrl then [.raiseWte false, .kill, .raiseWte true] else [.raiseWte false, .kill]

attribute [py_eval] L Lr pthreadL pthreadLr pprocessL pprocessLr premoteL premoteLr

/-! (the fuel 40 for one pass: as in `PKind.loop_quiet`) -/

theorem item (k : PKind) : ItemSpecC {} 40 (lnOf k.loop) (bodyOf k.loop) k.L := by
  intro st rest m hi hf hs
  cases k <;> simp [py_eval, hi, hf, hs]

theorem rel (k : PKind) : RelSpecC {} 40 (lnOf k.loop) (bodyOf k.loop) k.Lr := by
  intro st rest m hi hf hs
  cases k <;> simp [py_eval, hi, hf, hs]

theorem fire_item (k : PKind) (a : Async) (ha : a ∈ k.cov) :
    FireItem {} 40 (.whileS (lnOf k.loop) (condOf k.loop) (bodyOf k.loop)) a k.L (CtrlAlive k.needCtrl) := by
  intro st rest K hK hi hl hq hx
  have h1 := hq.inflight; have h2 := hq.stop; have h3 := hq.async
  generalize hr : exec {} 40 st (.whileS (lnOf k.loop) (condOf k.loop) (bodyOf k.loop)) = r
  cases k
  all_goals
    simp only [cov, needCtrl, if_true, Bool.false_eq_true, if_false, List.mem_cons, List.mem_nil_iff, or_false] at ha
    simp only [L, pthreadL, pprocessL, premoteL] at hK
    simp only [CtrlAlive, needCtrl] at hx
    rcases ha with rfl | rfl | rfl
  -- one case per landing point `K` inside the pass (`hK` bounds it by a numeral, so that `omega` ends the enumeration)
  all_goals
    repeat' (first | omega | rcases K with _ | K)
  all_goals
    (simp [py_eval, hi, hl, h1, h2, h3, hx] at hr
     subst hr
     constructor <;> simp [firedOut, firedReq, firedCtrl, h2, h3, hx])

theorem fire_rel (k : PKind) (a : Async) (ha : a ∈ k.cov) :
    FireRel {} 40 (.whileS (lnOf k.loop) (condOf k.loop) (bodyOf k.loop)) a k.Lr (CtrlAlive k.needCtrl) := by
  intro st rest K hK hi hl hq hx
  have h1 := hq.inflight; have h2 := hq.stop; have h3 := hq.async
  generalize hr : exec {} 40 st (.whileS (lnOf k.loop) (condOf k.loop) (bodyOf k.loop)) = r
  cases k
  all_goals
    simp only [cov, needCtrl, if_true, Bool.false_eq_true, if_false, List.mem_cons, List.mem_nil_iff, or_false] at ha
    simp only [Lr, pthreadLr, pprocessLr, premoteLr] at hK
    simp only [CtrlAlive, needCtrl] at hx
    rcases ha with rfl | rfl | rfl
  all_goals
    repeat' (first | omega | rcases K with _ | K)
  all_goals
    (simp [py_eval, hi, hl, h1, h2, h3, hx] at hr
     subst hr
     refine ⟨?_, by simp⟩
     constructor <;> simp [firedOut, firedReq, firedCtrl, h2, h3, hx])

theorem loop_disturbed (k : PKind) (a : Async) (ha : a ∈ k.cov) (n : Nat) :
    ∃ F, LoopSummary {} a n k.L k.Lr F k.loop (CtrlAlive k.needCtrl) := by
  rw [k.loop_eq]
  obtain ⟨F, _, h⟩ := Py.loop_disturbed {} 40 _ _ _ a k.L k.Lr (CtrlAlive k.needCtrl)
    (fun st hs => by cases k <;> simp [py_eval, hs]) k.item k.rel (k.fire_item a ha) (k.fire_rel a ha)
    (fun st t l i e cn rs h => h) n
  exact ⟨F, h⟩

theorem around (k : PKind) : Around {} k.run k.loop k.L k.Lr k.P k.S k.cov k.needCtrl where
  onlyLoop := k.loop_only
  quiet := k.loop_quiet {} ⟨rfl, rfl, rfl⟩
  disturbed := k.loop_disturbed
  early := by cases k <;> decide +kernel
  fired := by cases k <;> decide +kernel
  late := by cases k <;> decide +kernel

end PKind
end PwVerif.Py
