import PwVerif.Model.Lifecycle
import PwVerif.Gen.RunLoops
/-!
Deferred delivery of a terminate request (see `Async.deferred`), evaluated once per (kind, target) over
**every** reachable arrival point and **every** delay on the programs regenerated from /repo; the
property files `Props/C01Deferred.lean` and `Props/C03Deferred.lean` take their statements from here
(`deferredAll_mono`). One kernel evaluation per (kind, target) keeps the cost of the table down.
-/
namespace PwVerif.Lifecycle
open PwVerif.Py

/-- `deferredAll` as the statement it decides: every arrival point `first + i` behind `start`, every delay `d` -/
theorem deferredAll_iff {prog : List Stmt} {env : Env} {inputs : List Input} {start : Nat} {f : St → St → Bool} :
    deferredAll prog env inputs start f = true ↔
      let st0 := (run prog env inputs none .kill).1
      let first := st0.trace.idxOf start + 1
      ∀ i < st0.trace.length - first, ∀ d < st0.trace.length - (first + i) + 1,
        f st0 (run prog env inputs (some (first + i)) (.deferred d)).1 = true := by
  simp [deferredAll, List.all_eq_true]

theorem deferredAll_mono {prog : List Stmt} {env : Env} {inputs : List Input} {start : Nat}
    {f g : St → St → Bool} (h : ∀ a b, f a b = true → g a b = true)
    (hf : deferredAll prog env inputs start f = true) : deferredAll prog env inputs start g = true :=
  deferredAll_iff.mpr fun i hi d hd => h _ _ (deferredAll_iff.mp hf i hi d hd)

end PwVerif.Lifecycle

namespace PwVerif.Deferred
open PwVerif.Py PwVerif.Lifecycle PwVerif.Gen

/-- C01's shape: the target's own outcome, "terminated", or "nothing could be reported" -/
def shape (t : Target) (o : Obs) : Bool := o == own t || o == terminated || o == unreported

/-- C03: terminated, or the worker's own (undisturbed) outcome - unless the exception is finally raised inside
    one of the run loop's own `except` handlers (the known finding of C03); raised while the target runs
    (line 0): terminated -/
def dich (kd : Kind) (hl : List Nat) (st0 st : St) : Bool :=
  let o := observe kd st
  let ownObs := observe kd st0
  match st.raisedAt with
  | some l => hl.contains l || (l == 0 && o == terminated) || (l != 0 && (o == terminated || o == ownObs))
  | none => o == ownObs

def both (prog : List Stmt) (kd : Kind) (t : Target) (st0 st : St) : Bool :=
  shape t (observe kd st) && dich kd (handlerLinesL prog) st0 st

def table (prog : List Stmt) (start : Nat) (kd : Kind) (t : Target) : Bool :=
  deferredAll prog { target := t } [] start (both prog kd t)

theorem process_returns : table processRun processRunStart .process .returns = true := by decide +kernel
theorem process_raisesUser : table processRun processRunStart .process .raisesUser = true := by decide +kernel
theorem process_raisesBase : table processRun processRunStart .process .raisesBase = true := by decide +kernel
theorem remote_returns : table remoteRun remoteRunStart .remote .returns = true := by decide +kernel
theorem remote_raisesUser : table remoteRun remoteRunStart .remote .raisesUser = true := by decide +kernel
theorem remote_raisesBase : table remoteRun remoteRunStart .remote .raisesBase = true := by decide +kernel

theorem process_table : ∀ t, table processRun processRunStart .process t = true
  | .returns => process_returns
  | .raisesUser => process_raisesUser
  | .raisesBase => process_raisesBase
theorem remote_table : ∀ t, table remoteRun remoteRunStart .remote t = true
  | .returns => remote_returns
  | .raisesUser => remote_raisesUser
  | .raisesBase => remote_raisesBase

variable {prog : List Stmt} {start : Nat} {kd : Kind} {t : Target} (h : table prog start kd t = true)
include h
theorem table_shape : deferredAll prog { target := t } [] start (fun _ st => shape t (observe kd st)) = true :=
  deferredAll_mono (fun _ _ hb => ((Bool.and_eq_true _ _).mp hb).1) h
theorem table_dich : deferredAll prog { target := t } [] start (dich kd (handlerLinesL prog)) = true :=
  deferredAll_mono (fun _ _ hb => ((Bool.and_eq_true _ _).mp hb).2) h

end PwVerif.Deferred
