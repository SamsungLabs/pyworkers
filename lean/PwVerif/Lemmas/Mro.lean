import PwVerif.Model.Mro
/-! The metaclass check's loop computes its declarative reading from any pair of flags it is entered with (`checkLoop_spec`);
    the reducer choice of a `RemotePickler` in normal form relative to standard pickle's (`remoteChoice_eq`). -/
namespace PwVerif.C13
open PwVerif.Mro

/-- What the loop computes when entered with flags `(allow, has)`. `allow = false` records that a plain `__getstate__` came
    earlier: a remote-aware one anywhere in what is left of the prefix is then shadowed. -/
def specFrom (mro : List ClassInfo) (allow has : Bool) : Res :=
  let p := prefixOf mro
  if (!allow && p.any (·.gs = .remote)) || inconsistent p then .warning
  else if hasReduce mro then .ok false
  else .ok (has || p.any (·.gs = .remote))

theorem checkLoop_spec (mro : List ClassInfo) (allow has : Bool) :
    checkLoop mro allow has = specFrom mro allow has := by
  induction mro generalizing allow has with
  | nil => simp [checkLoop, specFrom, prefixOf, inconsistent, hasReduce]
  | cons c rest ih =>
    obtain ⟨dr, gs⟩ := c
    cases dr with
    | true => simp [checkLoop, specFrom, prefixOf, inconsistent, hasReduce]
    | false => cases gs <;> cases allow <;> simp [checkLoop, ih, specFrom, prefixOf, inconsistent, hasReduce]

/-- Where a `RemotePickler` departs from standard pickle: on an opt-in object that is registered, or that is met with
    `remote=True` and not claimed by copyreg. -/
theorem remoteChoice_eq (r : Bool) (o : Obj) (hc : coherent o = true) :
    remoteChoice r o =
      if o.optIn && (o.registered || r && !o.inCopyreg) then .remoteReduce r else stdChoice o := by
  simp only [coherent, Bool.and_eq_true, Bool.or_eq_true, Bool.not_eq_true'] at hc
  unfold remoteChoice stdChoice
  cases hb : o.builtin with
  | true =>
    -- a builtin is not opt-in
    simp [hb] at hc
    simp [hc]
  | false =>
    cases hr : o.registered with
    | true =>
      -- a registered class is opt-in
      simp [hr] at hc
      simp [hc]
    | false => cases o.inCopyreg <;> simp [Bool.and_comm]

end PwVerif.C13
