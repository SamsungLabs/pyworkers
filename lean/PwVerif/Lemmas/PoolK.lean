import PwVerif.Lemmas.Pool
/-!
Second invariant of the Pool model (no enqueue_fn): **work never waits while a usable worker idles**.

`K s`: no usable worker is idle, or the run is *quiet* (retry list empty, input source found depleted). It holds whenever
the pool is between two events: every `Ext` move keeps it (`K_ext`). The pool's single moves do not (reading a result
makes a worker idle until `try_enqueue` has run): those keep `Le`, and `K` is carried through `try_enqueue` and
`first_enqueue` by what their return values mean (`tryEnqueue_facts`, `firstRound_facts`).

Consequence (`Props/C08.lean`, `Props/C08NoRetry.lean`): `PoolError` is raised only when **every** worker has been closed.
-/
namespace PwVerif.Pool

def isIdle (x : Worker) : Bool := x.ppw.isEmpty && !x.closed

/-- worker `j` is closed or holds pending work -/
def CN (s : St) (j : Nat) : Prop := isIdle (getW s j) = false
def NoIdle (s : St) : Prop := ∀ j, j < s.ws.length → CN s j
def Quiet (s : St) : Prop := s.retries = [] ∧ s.depleted = true
def K (s : St) : Prop := NoIdle s ∨ Quiet s

/-- `pick` (= `next(iter(idle))`) returns something whenever there is an idle worker -/
def PickTotal (pick : List Nat → Option Nat) : Prop := ∀ l, pick l = none → l = []

theorem pickFirst_total : PickTotal pickFirst := by
  intro l h; cases l <;> simp_all [pickFirst]

/-- a move of the pool never turns a busy or closed worker into an idle one, never un-depletes, keeps the workers -/
structure Le (s t : St) : Prop where
  len : t.ws.length = s.ws.length
  cn : ∀ j, CN s j → CN t j
  depl : s.depleted = true → t.depleted = true

theorem Le.refl (s : St) : Le s s := ⟨rfl, fun _ h => h, fun h => h⟩
theorem Le.trans {a b c : St} (h1 : Le a b) (h2 : Le b c) : Le a c :=
  ⟨by rw [h2.len, h1.len], fun j h => h2.cn j (h1.cn j h), fun h => h2.depl (h1.depl h)⟩

theorem Le.of_eq {s t : St} (hws : t.ws = s.ws) (hd : s.depleted = true → t.depleted = true) : Le s t :=
  ⟨by rw [hws], fun j h => by rwa [CN, getW_congr hws], hd⟩

theorem NoIdle.le {s t : St} (h : NoIdle s) (hle : Le s t) : NoIdle t :=
  fun j hj => hle.cn j (h j (hle.len ▸ hj))

theorem le_setW (s : St) (w : Nat) (x : Worker) (h : isIdle x = true → isIdle (getW s w) = true) :
    Le s (setW s w x) := by
  by_cases hw : w < s.ws.length
  · refine ⟨setW_length _ _ _, fun j hj => ?_, fun hd => hd⟩
    rw [CN, getW_setW s w j x hw]
    split
    · rename_i e
      cases hx : isIdle x with
      | false => rfl
      | true => rw [CN, e, h hx] at hj; cases hj
    · exact hj
  · rw [setW_oob s w x hw]; exact Le.refl s

theorem isIdle_enq (x : Worker) (inp : Inp) :
    isIdle { x with inbox := x.inbox ++ [inp], ppw := x.ppw ++ [inp] } = false := by
  simp [isIdle]

theorem isIdle_dead (x : Worker) : isIdle { x with ppw := [], closed := true } = false := by
  simp [isIdle]

theorem le_doEnqueue (s : St) (w : Nat) (inp : Inp) : Le s (doEnqueue s w inp) := by
  have h1 := le_setW s w { getW s w with inbox := (getW s w).inbox ++ [inp], ppw := (getW s w).ppw ++ [inp] }
    (by intro h; rw [isIdle_enq] at h; cases h)
  exact Le.trans h1 (Le.of_eq rfl (fun h => h))

theorem cn_doEnqueue (s : St) (w : Nat) (inp : Inp) (hw : w < s.ws.length) : CN (doEnqueue s w inp) w := by
  show isIdle (getW (setW s w _) w) = false
  rw [getW_setW_same s w _ hw]; exact isIdle_enq _ _

theorem le_markDead (c : Cfg) (s : St) (w : Nat) : Le s (markDead c s w) :=
  (le_setW s w { getW s w with ppw := [], closed := true } (fun h => by rw [isIdle_dead] at h; cases h)).trans
    (Le.of_eq (markDead_ws c s w) (fun h => by rw [markDead_depleted]; exact h))

theorem cn_closed {s : St} {j : Nat} (h : (getW s j).closed = true) : CN s j := by simp [CN, isIdle, h]

theorem cn_markDead (c : Cfg) (s : St) (w : Nat) (hw : w < s.ws.length) : CN (markDead c s w) w :=
  cn_closed (closed_markDead c s w hw)

theorem le_unused (c : Cfg) (s : St) (inp : Inp) (fr : Bool) : Le s (unused c s inp fr) := by
  unfold unused putBack
  cases c.retry <;> cases fr <;> exact Le.of_eq rfl (fun h => h)

theorem le_giveUp (c : Cfg) (s : St) (w : Nat) (inp : Inp) : Le s (giveUp c s w inp) := by
  unfold giveUp
  cases c.retry <;> exact Le.of_eq rfl (fun h => h)

theorem le_drop (c : Cfg) (s : St) (w : Nat) (inp : Inp) (fr : Bool) : Le s (unused c (giveUp c s w inp) inp fr) :=
  (le_giveUp c s w inp).trans (le_unused c _ inp fr)

variable {c : Cfg} {pick : List Nat → Option Nat}

/-! ### the pool's own moves respect `Le` (reading a result does not: it makes the worker idle) -/

theorem le_book {G : Prop} {F s F' t} (m : Book c G F s F' t) : Le s t := by
  cases m with
  | popRetry | popSrc => exact Le.of_eq rfl (fun h => h)
  | deplete => exact Le.of_eq rfl (fun _ => rfl)
  | back fr => cases fr <;> exact Le.of_eq rfl (fun h => h)
  | unused fr => exact le_drop c _ _ _ fr
  | enq => exact le_doEnqueue _ _ _

theorem le_low {F s F' t} (m : Low c pick F s F' t) : Le s t := by
  cases m with
  | book _ m => exact le_book m
  | mark => exact le_markDead c _ _
  | fuel => exact Le.of_eq rfl (fun h => h)

theorem le_settle (fuel : Nat) (skip : List Nat) (s : St) :
    Le s (settle c pick fuel skip s) :=
  (settle_run fuel skip [] s).rel Le.refl Le.trans le_low

theorem le_mid {F s F' t} (m : Mid c pick F s F' t) : Le s t :=
  m.run.rel Le.refl Le.trans le_low

theorem le_handleDeath (s : St) (w : Nat) : Le s (handleDeath c pick s w) :=
  (le_markDead c s w).trans (le_settle _ _ _)

theorem cn_handleDeath (s : St) (w : Nat) (hw : w < s.ws.length) :
    CN (handleDeath c pick s w) w :=
  cn_closed (closed_handleDeath s w hw)

theorem idleFrom_length (ws : List Worker) (k : Nat) : (idleFrom ws k).length = ws.countP isIdle := by
  fun_induction idleFrom ws k with
  | case1 => rfl
  | case2 x xs k hx ih => simp [isIdle, hx, ih]
  | case3 x xs k hx ih => simp [isIdle, hx, ih]

theorem noIdle_of_idle_nil {s : St} (h : idle s = []) : NoIdle s := by
  intro j hj
  have hc : s.ws.countP isIdle = 0 := by rw [← idleFrom_length s.ws 0, ← idle, h]; rfl
  have := List.countP_eq_zero.mp hc (getW s j) (getW_mem s j hj)
  simpa [CN] using this

theorem mem_idle_isIdle {s : St} {w : Nat} (h : w ∈ idle s) : w < s.ws.length ∧ isIdle (getW s w) = true := by
  obtain ⟨hw, hp, hc⟩ := mem_idle h
  exact ⟨hw, by simp [isIdle, hp, hc]⟩

/-- without refusals the workers skipped by a round are never idle ones, so skipping changes nothing -/
theorem avail_eq_idle {s : St} {skip : List Nat} (h : ∀ w ∈ skip, CN s w) : avail s skip = idle s := by
  apply List.filter_eq_self.mpr
  intro w hw
  obtain ⟨_, hi⟩ := mem_idle_isIdle hw
  cases hc : skip.contains w with
  | false => rfl
  | true =>
    have := h w (by simpa using hc)
    rw [CN, hi] at this; cases this

/-- how the re-dispatch loop can end when no `enqueue_fn` refuses and the idle choice is total: with nothing left to
    retry, with nobody idle - or out of fuel, which `Lemmas/PoolF.lean` rules out -/
theorem settle_post (hn : ∀ w i, c.refuse w i = false) (hp : PickOK pick)
    (ht : PickTotal pick) (fuel : Nat) (skip : List Nat) (s : St) (hsk : ∀ w ∈ skip, CN s w) :
    (settle c pick fuel skip s).retries = [] ∨ NoIdle (settle c pick fuel skip s) ∨
      (settle c pick fuel skip s).err = some .outOfFuel := by
  -- (the cases of `settle` are listed at `settle_run`, Lemmas/PoolSteps.lean)
  fun_induction settle c pick fuel skip s with
  | case1 skip s hr => exact .inl (by simpa using hr)
  | case4 fuel skip s hr => exact .inl hr
  | case2 skip s _ hpk | case5 fuel skip s _ _ _ hpk =>
    -- nobody on offer, and the workers skipped are not idle: nobody is
    rw [avail_eq_idle hsk] at hpk
    exact .inr (.inl (noIdle_of_idle_nil (ht _ hpk)))
  | case3 => exact .inr (.inr rfl)
  | case6 fuel skip s inp rest hr w hpk waiting s1 s' ih1 ih2 =>
    rw [avail_eq_idle hsk] at hpk
    obtain ⟨hw, _⟩ := mem_idle_isIdle (hp _ _ hpk)
    have h0 : Le s s1 := Le.of_eq rfl (fun h => h)
    apply ih2
    -- the worker tried is busy or closed afterwards; the workers skipped so far stay so
    suffices h : Le s1 s' ∧ CN s' w by
      intro j hj
      have hcn := fun hj => (h0.trans h.1).cn j (hsk j hj)
      split at hj
      · rcases List.mem_cons.mp hj with rfl | hj
        · exact h.2
        · exact hcn hj
      · exact hcn hj
    simp only [s', hn, Bool.false_eq_true, if_false]
    split
    · exact ⟨le_doEnqueue s1 w inp, cn_doEnqueue s1 w inp hw⟩
    · have h1 : Le (markDead c s1 w) (settle c pick fuel [] (markDead c s1 w)) := le_settle _ _ _
      have h2 := h1.trans (le_drop c _ w inp true)
      exact ⟨(le_markDead c s1 w).trans h2, h2.cn w (cn_markDead c s1 w hw)⟩

/-- `handle_death`, entered with nothing to retry and no error, ends with nothing to retry or nobody idle: by
    `settle_post` and `handleDeath_err` when the idle choice is total (`redispatches_total`, `Lemmas/PoolF.lean`),
    trivially when retry is off (`redispatches_nr`, `Lemmas/PoolNR.lean`) -/
def Redispatches (c : Cfg) (pick : List Nat → Option Nat) : Prop :=
  ∀ s w, s.retries = [] → s.err = none → (handleDeath c pick s w).retries = [] ∨ NoIdle (handleDeath c pick s w)

theorem quiet_nextInputs {s : St} (h : Quiet s) : nextInputs s = (none, s) :=
  nextInputs_depleted h.1 h.2

theorem nextInputs_none {s s' : St} (h : nextInputs s = (none, s')) : Quiet s' := by
  revert h
  fun_cases nextInputs s <;> intro h <;> cases h
  case case2 hr hd => exact ⟨hr, hd⟩
  case case3 hr _ _ => exact ⟨hr, rfl⟩

theorem le_tryEnqueue {s : St} {w : Nat} (hw : w < s.ws.length) :
    Le s (tryEnqueue c pick s w).1 :=
  (tryEnqueue_run [] hw).rel Le.refl Le.trans le_mid

/-- what the return value of `try_enqueue(w)` means when no `enqueue_fn` refuses: "no data" - the run is quiet;
    "data" - `w` is closed or has got it -/
theorem tryEnqueue_facts (hn : ∀ w i, c.refuse w i = false)
    (s : St) (w : Nat) (hw : w < s.ws.length) :
    match tryEnqueue c pick s w with
    | (t, false) => Quiet t
    | (t, true) => CN t w := by
  have hrun := nextInputs_run (c := c) (pick := pick) [] s
  have hw' : ∀ {fr inp s'}, nextInputs s = (some (fr, inp), s') → w < s'.ws.length := fun e => by
    rw [e] at hrun; rw [(hrun.mon mon_mid).len]; exact hw
  fun_cases tryEnqueue c pick s w
  case case1 s' e => exact nextInputs_none e
  case case2 fr inp s' e hcl => exact (le_drop c s' w inp fr).cn w (cn_closed hcl)
  case case3 fr inp s' e _ hrf => rw [hn] at hrf; cases hrf
  case case4 fr inp s' e _ _ _ => exact cn_doEnqueue _ _ _ (hw' e)
  case case5 fr inp s' e _ _ _ => exact (le_drop c _ w inp fr).cn w (cn_handleDeath s' w (hw' e))

/-- the invariant across `try_enqueue(w)`: `w` itself may be idle before (its result has just been taken) -/
theorem K_tryEnqueue (hn : ∀ w i, c.refuse w i = false)
    (s : St) (w : Nat) (hw : w < s.ws.length) (h : (∀ j, j < s.ws.length → j ≠ w → CN s j) ∨ Quiet s) :
    K (tryEnqueue c pick s w).1 := by
  rcases h with h | h
  case inr => rw [tryEnqueue, quiet_nextInputs h]; exact .inr h
  have hle := le_tryEnqueue (c := c) (pick := pick) hw
  have hf := tryEnqueue_facts hn (pick := pick) s w hw
  generalize tryEnqueue c pick s w = r at hle hf
  obtain ⟨t, b⟩ := r
  cases b with
  | false => exact .inr hf
  | true =>
    refine .inl fun j hj => ?_
    rw [hle.len] at hj
    by_cases hjw : j = w
    · subst hjw; exact hf
    · exact hle.cn j (h j hj hjw)

theorem K_handleDeath (hd : Redispatches c pick) (s : St) (w : Nat)
    (he : s.err = none) (h : K s) : K (handleDeath c pick s w) := by
  have hle := le_handleDeath (c := c) (pick := pick) s w
  rcases h with h | h
  · exact .inl (h.le hle)
  · exact (hd s w h.1 he).elim (fun h1 => .inr ⟨h1, hle.depl h.2⟩) .inl

theorem K_setW_same {s : St} {w : Nat} {x : Worker} (h : K s) (hp : x.ppw = (getW s w).ppw) (hc : x.closed = (getW s w).closed) :
    K (setW s w x) :=
  h.imp (·.le (le_setW s w x (by simp [isIdle, hp, hc]))) id

theorem K_ext (hn : ∀ w i, c.refuse w i = false) (hd : Redispatches c pick)
    {F s F' t} (m : Ext c pick F s F' t) (h : K s) : K t := by
  cases m with
  | death he _ _ hs => exact K_handleDeath hd _ _ he (K_setW_same h hs.ppw hs.closed)
  | loc _ hl => exact K_setW_same h hl.ppw hl.closed
  | @popEmpty _ _ w _ rest =>
    -- `K` does not look at `err`
    exact K_setW_same (w := w) (x := { getW s w with chan := rest }) h rfl rfl
  | @result _ _ w _ _ _ _ hw =>
    -- the result has been taken: nobody but `w` may be idle
    refine K_tryEnqueue hn _ w (by rw [setW_length]; exact hw) (h.imp (fun h j hj hjw => ?_) id)
    rw [setW_length] at hj
    show CN (setW s w _) j
    rw [CN, getW_setW_other s w j _ hjw]
    exact h j hj

theorem K_runEvents (hn : ∀ w i, c.refuse w i = false) (hd : Redispatches c pick)
    (evs : List Ev) (s : St) (h : K s) : K (runEvents c pick s evs) :=
  (runEvents_run evs s).inv (P := fun _ s => K s) (K_ext hn hd) h

theorem cn_next {s t : St} {k : Nat} (hcn : ∀ j, j < k → CN s j) (hle : Le s t) (hk : CN t k) :
    ∀ j, j < k + 1 → CN t j :=
  fun j hj => if e : j = k then e ▸ hk else hle.cn j (hcn j (by omega))

/-- a round of `first_enqueue` that is not cut short leaves nobody idle; one that is leaves the run quiet -/
theorem firstRound_facts (hn : ∀ w i, c.refuse w i = false)
    (n k : Nat) (s : St) (hk : k + n = s.ws.length) (hcn : ∀ j, j < k → CN s j) :
    match firstRound c pick n k s with
    | (t, false) => Quiet t
    | (t, true) => NoIdle t := by
  fun_induction firstRound c pick n k s with
  | case1 => exact fun j hj => hcn j (by omega)
  | case2 n k s hcl ih => exact ih (by omega) (cn_next hcn (Le.refl s) (cn_closed hcl))
  | case3 n k s _ s' e => have := tryEnqueue_facts hn (pick := pick) s k (by omega); rwa [e] at this
  | case4 n k s _ s' e ih =>
    have hle := le_tryEnqueue (c := c) (pick := pick) (s := s) (w := k) (by omega)
    have := tryEnqueue_facts hn (pick := pick) s k (by omega)
    rw [e] at hle this
    exact ih (by rw [hle.len]; omega) (cn_next hcn hle this)

/-- one complete round establishes `K` from nothing (`firstRound_facts`), so `K` is asked of `s` only when there is no
    round; `first_enqueue` runs `c.extra + 1` of them (`K_start`) -/
theorem K_firstEnqueue (hn : ∀ w i, c.refuse w i = false)
    (rounds : Nat) (s : St) (h : rounds = 0 → K s) : K (firstEnqueue c pick rounds s) := by
  fun_induction firstEnqueue c pick rounds s with
  | case1 => exact h rfl
  | case2 rounds s s' e =>
    have := firstRound_facts hn (pick := pick) s.ws.length 0 s (by omega) (fun j hj => by omega)
    rw [e] at this
    exact .inr this
  | case3 rounds s s' e ih =>
    have := firstRound_facts hn (pick := pick) s.ws.length 0 s (by omega) (fun j hj => by omega)
    rw [e] at this
    exact ih fun _ => .inl this

theorem K_start (hn : ∀ w i, c.refuse w i = false)
    (n : Nat) (src : List Inp) (pre : List Ev) : K (start c pick n src pre) :=
  K_firstEnqueue hn _ _ (fun h => by omega)

/-- a run that has stopped with inputs left has no usable worker: otherwise nothing is pending, a usable worker is
    idle, so by `K` the run is quiet - and would have returned -/
theorem all_closed_of_poolError {s : St} {part : List Inp} (hp : s.pending = (ppwLen s : Int)) (hK : K s)
    (h : outcome s = .poolError part) : ∀ x ∈ s.ws, x.closed = true := by
  obtain ⟨_, hrun, hnot, _⟩ := outcome_spec h
  simp only [running, Bool.and_eq_false_iff, List.any_eq_false, decide_eq_false_iff_not, Decidable.not_not] at hrun
  rcases hrun with hpend | hall
  · intro x hx
    cases hcl : x.closed with
    | true => rfl
    | false =>
      exfalso
      obtain ⟨j, hj, hget⟩ := List.getElem_of_mem hx
      rcases hK with hno | hq
      · have := hno j hj
        simp [CN, isIdle, getW_eq s j hj, hget, ppw_nil_of_pending hp hpend x hx, hcl] at this
      · exact hnot ⟨hq.2, hpend, hq.1⟩
  · intro x hx; simpa using hall x hx

end PwVerif.Pool
