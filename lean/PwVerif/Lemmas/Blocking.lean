import PwVerif.Model.Blocking
/-! Calls on a dead or never-run worker (`callDead`, `runCalls`): each returns at once with a value that depends on the
    call alone and leaves the flags as they are, so a sequence of calls is a `map`. -/
namespace PwVerif.C04
open PwVerif.Blocking

theorem callDead_eq (f : Flags) (c : Call) : callDead f c = (f, c != .isAlive) := by
  cases c <;> rfl

theorem runCalls_eq (f : Flags) (cs : List Call) : runCalls f cs = cs.map (fun c => c != .isAlive) := by
  induction cs with
  | nil => rfl
  | cons c cs ih => simp only [runCalls, callDead_eq, ih, List.map_cons]

end PwVerif.C04
