import PwVerif.Model.Contexts
/-! `serves t` reads the association list as the dictionary `self.contexts`; `has t` is whether that dictionary holds the id
    (`has_eq`). What appending an entry and filtering on keys do to `serves` (`serves_append`, `serves_filter`) is all the
    step lemmas (`step_refines`, `serve_step`) need. -/
namespace PwVerif.C18
open PwVerif.Contexts

/-- abstraction: the set of registered ids -/
def abs (t : Table) : Nat → Bool := has t

theorem serves_append (t u : Table) (j : Nat) :
    serves (t ++ u) j = (serves t j).or (serves u j) := by
  fun_induction serves t j <;> simp [serves, *]

theorem serves_filter (f : Nat → Bool) (t : Table) (j : Nat) :
    serves (t.filter (fun x => f x.1)) j = if f j then serves t j else none := by
  induction t with
  | nil => simp [serves]
  | cons x t ih =>
    obtain ⟨k, q⟩ := x
    by_cases e : k = j
    · subst e
      cases h : f k <;> simp [serves, h, ih]
    · cases h : f k <;> simp [serves, h, ih, e]

theorem has_eq (t : Table) (i : Nat) : has t i = (serves t i).isSome := by
  fun_induction serves t i <;> simp_all [has]

theorem has_iff (t : Table) (j : Nat) : has t j = true ↔ j ∈ t.map (·.1) := by
  simp [has, List.any_eq_true]

theorem has_append (t : Table) (i p j : Nat) : has (t ++ [(i, p)]) j = (has t j || j == i) := by
  simp [has, BEq.comm]

theorem has_filter (t : Table) (i j : Nat) : has (t.filter (·.1 != i)) j = (j != i && has t j) := by
  simp only [has_eq, serves_filter (· != i)]
  cases j != i <;> rfl

theorem step_refines (t : Table) (op : Op) :
    (step t op).2 = (specStep (abs t) op).2 ∧ ∀ j, abs (step t op).1 j = (specStep (abs t) op).1 j := by
  fun_cases step t op
  case case2 i p h =>
    -- a free id is created
    simp only [specStep, abs, h]
    exact ⟨rfl, fun j => (has_append t i p j).trans (Bool.or_comm ..)⟩
  case case3 i => exact ⟨rfl, has_filter t i⟩
  -- a refused create and a worker request leave the table as it is
  all_goals simp [specStep, abs, *]

theorem serve_step (t : Table) (op : Op) (j : Nat) :
    serves (step t op).1 j = specServe (serves t) op j := by
  fun_cases step t op
  case case2 i p h =>
    -- `i` is not served so far: the appended entry serves `i` and nothing else
    have h : serves t i = none := by simpa [has_eq] using h
    simp only [specServe, h, Option.isSome_none, Bool.false_eq_true, if_false, serves_append, serves]
    by_cases e : j = i
    · simp [e, h]
    · simp [e, Ne.symm e]
  case case3 i =>
    simp only [specServe, serves_filter (· != i)]
    by_cases e : j = i <;> simp [e]
  all_goals simp_all [specServe, has_eq]

end PwVerif.C18
