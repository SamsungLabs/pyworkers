import PwVerif.Model.Forward
/-! The forwarding loop `fwd` over the three parts of a stream: a run of results whose counters fit (`fwd_items`), the child's
    own end message (`fwd_endM`), and the two ways out of the loop (`fwd_exit`). -/
namespace PwVerif.C06
open PwVerif.Forward

theorem fwd_items (cfg : Cfg) : ∀ (j c0 : Nat) (rest : List In) (s : St), s.counter = c0 →
    fwd cfg (itemsFrom c0 j ++ rest) s =
      fwd cfg rest { s with counter := c0 + j, out := s.out ++ outItemsFrom c0 j } := by
  intro j
  induction j with
  | zero =>
    intro c0 rest s hc
    simp only [itemsFrom, outItemsFrom, List.nil_append, List.append_nil, Nat.add_zero]
    rw [← hc]
  | succ j ih =>
    intro c0 rest s hc
    -- the counter check passes, so where the assert stands makes no difference
    simp only [itemsFrom, outItemsFrom, List.cons_append, fwd, hc, beq_self_eq_true, Bool.or_true, if_true,
      ite_self]
    rw [ih (c0 + 1) rest _ rfl]
    simp only [List.append_assoc, List.singleton_append, Nat.add_assoc, Nat.add_comm 1]

/-- Both ways out of the loop (the final result, the closed connection) put the end marker exactly
    when none has been signalled yet. -/
theorem fwd_exit (cfg : Cfg) (hal : cfg.afterLoopPutsMarker = true) (f : Bool) (s : St) :
    fwd cfg (if f then [.final] else []) s = if s.signalled then s else putMarker s := by
  cases f
  · cases hs : s.signalled <;> cases hc : cfg.closedPutsMarker <;> simp [fwd, afterLoop, hal, hs, hc, putMarker]
  · cases hs : s.signalled <;> simp [fwd, afterLoop, hal, hs]

/-- The child's own end message, when its counter passes the assert, is forwarded and signalled
    wherever the assert stands. -/
theorem fwd_endM (cfg : Cfg) (hfl : cfg.endSetsFlag = true) (c : Nat) (rest : List In) (s : St)
    (hok : endOk cfg.endAssert c s.counter = true) :
    fwd cfg (.endM c :: rest) s = fwd cfg rest { s with out := s.out ++ [.endM c], signalled := true } := by
  simp only [fwd, hok, hfl, Bool.or_true, if_true, ite_self]

end PwVerif.C06
