import PwVerif.Model.Framing
/-! Family F: what one `recv`, the exact read and the header do, as functions of the byte stream; then what `recvMsg`
    reads off a whole or a truncated message, and `recvN` off a run of messages. -/
namespace PwVerif.Framing

theorem unbe32_be32 (n : Nat) (h : n < 4294967296) : unbe32 (be32 n) = some n := by
  simp only [be32, unbe32]
  congr 1
  omega

theorem be32_length (n : Nat) : (be32 n).length = 4 := rfl

theorem Sock.recv_eq (s : Sock) (n : Nat) :
    ∃ k cuts', k ≤ n ∧ k ≤ s.data.length ∧ (k = 0 → n = 0 ∨ s.data.length = 0) ∧
      s.recv n = (s.data.take k, ⟨s.data.drop k, cuts'⟩) := by
  unfold Sock.recv
  split
  · exact ⟨min n s.data.length, [], Nat.min_le_left .., Nat.min_le_right .., by omega,
      by rw [← List.take_eq_take_min, ← List.drop_eq_drop_min]⟩
  · next c cs _ =>
    exact ⟨min (min n (c + 1)) s.data.length, cs, by omega, Nat.min_le_right .., by omega,
      by rw [← List.take_eq_take_min, ← List.drop_eq_drop_min]⟩

/-- With fuel for one byte per call the exact read depends on the stream alone, whatever the segmentation. -/
theorem recvExact_spec : ∀ (fuel n : Nat) (s : Sock) (acc : List Byte), n ≤ fuel →
    (n ≤ s.data.length →
      ∃ cuts', recvExact fuel n s acc = (.got (acc ++ s.data.take n), ⟨s.data.drop n, cuts'⟩)) ∧
    (s.data.length < n → ∃ s', recvExact fuel n s acc = (.closed, s'))
  | _, 0, s, acc, _ => ⟨fun _ => ⟨s.cuts, by simp [recvExact]⟩, by omega⟩
  | 0, _ + 1, _, _, h => by omega
  | fuel + 1, n + 1, s, acc, h => by
    obtain ⟨k, cuts', hkn, hkl, hk0, hr⟩ := s.recv_eq (n + 1)
    simp only [recvExact, hr, List.isEmpty_iff_length_eq_zero, List.length_take_of_le hkl]
    split
    · -- an empty chunk: the stream has ended
      exact ⟨by omega, fun _ => ⟨_, rfl⟩⟩
    · -- `k ≥ 1` bytes came; the rest of the read goes on behind them
      have ⟨ih1, ih2⟩ :=
        recvExact_spec fuel (n + 1 - k) ⟨s.data.drop k, cuts'⟩ (acc ++ s.data.take k) (by omega)
      simp only [List.length_drop] at ih1 ih2
      refine ⟨fun hn => ?_, fun hn => ih2 (by omega)⟩
      obtain ⟨c, hc⟩ := ih1 (by omega)
      exact ⟨c, by rw [hc, List.append_assoc, ← List.take_add, List.drop_drop, Nat.add_sub_cancel' hkn]⟩

theorem recvExact_all :
    ∀ (fuel n : Nat) (d rest : List Byte) (cuts : List Nat) (acc : List Byte),
      d.length = n → n ≤ fuel →
      ∃ cuts', recvExact fuel n ⟨d ++ rest, cuts⟩ acc = (.got (acc ++ d), ⟨rest, cuts'⟩) := by
  intro fuel n d rest cuts acc hd hn
  subst hd
  simpa using (recvExact_spec fuel d.length ⟨d ++ rest, cuts⟩ acc hn).1 (by simp)

theorem recvExact_short (fuel n : Nat) (s : Sock) (acc : List Byte) (hd : s.data.length < n)
    (hn : n ≤ fuel) : ∃ s', recvExact fuel n s acc = (.closed, s') :=
  (recvExact_spec fuel n s acc hn).2 hd

/-- `fuel = n` always suffices: the fuel never runs out with bytes still missing. -/
theorem recvExact_fuel (fuel n : Nat) (s : Sock) (acc : List Byte) (hn : n ≤ fuel) :
    (recvExact fuel n s acc).1 ≠ .spin := by
  have ⟨h1, h2⟩ := recvExact_spec fuel n s acc hn
  by_cases h : n ≤ s.data.length
  · obtain ⟨_, e⟩ := h1 h
    simp [e]
  · obtain ⟨_, e⟩ := h2 (by omega)
    simp [e]

end PwVerif.Framing

namespace PwVerif.C10
open PwVerif.Framing

theorem recvMsg_encode (m rest : List Byte) (cuts : List Nat) (hm : m.length < 4294967296) :
    ∃ cuts', recvMsg ⟨encode m ++ rest, cuts⟩ = (.msg m, ⟨rest, cuts'⟩) := by
  unfold recvMsg encode
  obtain ⟨c1, h1⟩ := recvExact_all 4 4 (be32 m.length) (m ++ rest) cuts [] rfl (Nat.le_refl _)
  obtain ⟨c2, h2⟩ := recvExact_all m.length m.length m rest c1 [] rfl (Nat.le_refl _)
  refine ⟨c2, ?_⟩
  rw [List.append_assoc, h1]
  simp only [List.nil_append, unbe32_be32 _ hm, h2]

theorem recvMsg_truncated (m : List Byte) (k : Nat) (cuts : List Nat)
    (hm : m.length < 4294967296) (hk : k < (encode m).length) :
    ∃ s', recvMsg ⟨(encode m).take k, cuts⟩ = (.closed, s') := by
  have hlen : (encode m).length = 4 + m.length := by simp [encode, be32_length]
  unfold recvMsg
  by_cases hk4 : k < 4
  · -- cut inside the header
    obtain ⟨s', h⟩ := recvExact_short 4 4 ⟨(encode m).take k, cuts⟩ [] (by simp; omega) (Nat.le_refl _)
    exact ⟨s', by rw [h]⟩
  · -- header complete, body short
    have hsplit : (encode m).take k = be32 m.length ++ m.take (k - 4) := by
      rw [encode, List.take_append, be32_length, List.take_of_length_le (by rw [be32_length]; omega)]
    obtain ⟨c1, h1⟩ := recvExact_all 4 4 (be32 m.length) (m.take (k - 4)) cuts [] rfl (Nat.le_refl _)
    obtain ⟨s', h2⟩ := recvExact_short m.length m.length ⟨m.take (k - 4), c1⟩ [] (by simp; omega)
      (Nat.le_refl _)
    exact ⟨s', by rw [hsplit, h1]; simp only [List.nil_append, unbe32_be32 _ hm, h2]⟩

theorem recvN_succ_msg (k : Nat) (s s' : Sock) (b : List Byte)
    (h : recvMsg s = (.msg b, s')) : recvN (k + 1) s = .msg b :: recvN k s' := by
  simp only [recvN, h]

theorem recvN_succ_closed (k : Nat) (s s' : Sock)
    (h : recvMsg s = (.closed, s')) : recvN (k + 1) s = [.closed] := by
  simp only [recvN, h]

theorem recvN_encodeAll (msgs : List (List Byte)) (rest : List Byte) (cuts : List Nat) (n : Nat)
    (h : ∀ m ∈ msgs, m.length < 4294967296) :
    ∃ cuts', recvN (msgs.length + n) ⟨encodeAll msgs ++ rest, cuts⟩
      = msgs.map .msg ++ recvN n ⟨rest, cuts'⟩ := by
  induction msgs generalizing cuts with
  | nil => exact ⟨cuts, by simp [encodeAll]⟩
  | cons m ms ih =>
    obtain ⟨c', hc⟩ := recvMsg_encode m (encodeAll ms ++ rest) cuts (h m (by simp))
    obtain ⟨c'', ih⟩ := ih c' (fun x hx => h x (by simp [hx]))
    refine ⟨c'', ?_⟩
    simp only [List.length_cons, encodeAll, List.append_assoc, List.map_cons, List.cons_append]
    rw [Nat.add_right_comm, recvN_succ_msg _ _ _ _ hc, ih]

end PwVerif.C10
