import PwVerif.Lemmas.PySim
import PwVerif.Gen.RunLoops
/-!
The loops of the three regenerated persistent programs, undisturbed: `loop_generic` (`Lemmas/PyLoop.lean`) with its two
per-pass hypotheses discharged by symbolic evaluation of the generated loop body. The loop of each program is found by
`firstWhileL`; no line number of the generated code is quoted. The three programs are told apart by a `PKind`, so that
what is said of them is said once.
-/
namespace PwVerif.C05
open PwVerif.Py PwVerif.Gen

/-- the environment of the theorems: the target returns, is not `None`, does not assign `user_state` -/
structure Returns (env : Env) : Prop where
  ret : env.target = .returns
  tn : env.targetNone = false
  na : env.assigns = false

/-- the three generated programs do contain a loop -/
example : (firstWhileL pthreadRun).isSome ∧ (firstWhileL pprocessRun).isSome ∧ (firstWhileL premoteRun).isSome := by
  decide +kernel

end PwVerif.C05

namespace PwVerif.Py
open PwVerif.Gen

inductive PKind where
  | thread | process | remote

def PKind.run : PKind → List Stmt
  | .thread => pthreadRun
  | .process => pprocessRun
  | .remote => premoteRun

def PKind.loop (k : PKind) : Stmt := (firstWhileL k.run).getD (.brk 0)

attribute [py_eval] PKind.run PKind.loop pthreadRun pprocessRun premoteRun

theorem PKind.loop_eq (k : PKind) : k.loop = .whileS (lnOf k.loop) (condOf k.loop) (bodyOf k.loop) := by cases k <;> rfl

theorem PKind.loop_quiet (k : PKind) (env : Env) (he : C05.Returns env) : ∀ n : Nat, ∃ F, QuietSummary env n F k.loop := by
  rw [k.loop_eq]
  -- 40: fuel for one pass of the body; any number above the nesting depth of the regenerated bodies does
  apply loop_generic env 40
  · intro st hs; cases k <;> simp [py_eval, hs]
  · intro st rest hi hq
    cases k <;> simp [py_eval, hi, hq.left, hq.inflight, hq.stop, he.ret, he.tn, he.na]
  · intro st rest hi hq
    cases k <;> simp [py_eval, hi, hq.left, hq.inflight, hq.stop]

theorem PKind.loop_only (k : PKind) : onlyLoopL k.loop k.run := by
  cases k <;> simp [onlyLoopL, onlyLoop, onlyLoopH, py_eval]

end PwVerif.Py

namespace PwVerif.C05
open PwVerif.Py

theorem pthread_loop (env : Env) (he : Returns env) : ∀ n : Nat, ∃ F, QuietSummary env n F (PKind.loop .thread) :=
  PKind.loop_quiet .thread env he
theorem pprocess_loop (env : Env) (he : Returns env) : ∀ n : Nat, ∃ F, QuietSummary env n F (PKind.loop .process) :=
  PKind.loop_quiet .process env he
theorem premote_loop (env : Env) (he : Returns env) : ∀ n : Nat, ∃ F, QuietSummary env n F (PKind.loop .remote) :=
  PKind.loop_quiet .remote env he

end PwVerif.C05
