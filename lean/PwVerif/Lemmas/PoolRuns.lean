import PwVerif.Lemmas.PoolK
/-!
Consecutive runs on one pool: after a run that returned normally, re-entering `run()` with the bookkeeping
re-initialised re-establishes both invariants, so everything proved about one run holds for every later run.
-/
namespace PwVerif.Pool

/-- after a normal return every pending list is empty already, so clearing them changes no worker -/
theorem inv_reset {src0 : List Inp} {s : St} {ret : List Inp} (hinv : Inv src0 [] s)
    (h : outcome s = .returned ret) (r : ResetCfg) (hr : r.all = true) (src : List Inp) :
    Inv src [] (resetFor r s src) := by
  obtain ⟨_, _, hpend, _, _⟩ := outcome_spec h
  simp only [ResetCfg.all, Bool.and_eq_true] at hr
  obtain ⟨⟨⟨⟨h1, h2⟩, h3⟩, h4⟩, h5⟩ := hr
  have hnil := ppw_nil_of_pending hinv.pending hpend
  have hws : (resetFor r s src).ws = s.ws := by
    simp only [resetFor, h3, if_true]
    conv => rhs; rw [← List.map_id s.ws]
    exact List.map_congr_left (fun x hx => by have := hnil x hx; cases x; simp_all)
  refine ⟨by rw [hws]; exact hinv.ws, ?_, fun i => ?_, fun hd => by simp [resetFor, h1] at hd, by simp [resetFor]⟩
  · have : ppwLen (resetFor r s src) = ppwLen s := by simp only [ppwLen, hws]
    rw [this, ← hinv.pending, hpend]; simp [resetFor, h2]
  · have : ppwCount i (resetFor r s src) = ppwCount i s := by simp only [ppwCount, hws]
    simp only [cnt, this, ppwCount_of_pending hinv.pending hpend i]
    simp [resetFor, h4, h5]

theorem inv_nextRun {c : Cfg} (hc : Retrying c) {pick : List Nat → Option Nat} (hp : PickOK pick)
    {src0 : List Inp} {s : St} {ret : List Inp} (hinv : Inv src0 [] s) (h : outcome s = .returned ret)
    (r : ResetCfg) (hr : r.all = true) (src : List Inp) (pre : List Ev) :
    Inv src [] (nextRun c pick r s src pre) :=
  nextRun_eq c pick r s src pre ▸ inv_firstEnqueue hc hp _ _ (inv_runEvents hc hp pre _ (inv_reset hinv h r hr src))

theorem K_nextRun {c : Cfg} (hn : ∀ w i, c.refuse w i = false) {pick : List Nat → Option Nat}
    (r : ResetCfg) (s : St) (src : List Inp) (pre : List Ev) : K (nextRun c pick r s src pre) :=
  K_firstEnqueue hn _ _ (fun h => by omega)

end PwVerif.Pool
