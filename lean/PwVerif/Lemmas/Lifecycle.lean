import PwVerif.Model.Lifecycle
/-! What the parent-side decoding and cache of `Model/Lifecycle.lean` do on any message and any number of accessors. -/
namespace PwVerif.C01
open PwVerif.Py PwVerif.Lifecycle

theorem decode_definite (r : Option Exc) : (decode r).hasError ≠ none := by
  unfold decode
  split <;> nofun

theorem gets_cached {q : Parent} {o : Obs} (hq : q.cached = some o) (m : Nat) :
    q.gets m = List.replicate m o := by
  induction m with
  | zero => rfl
  | succ m ih => simp [Parent.gets, Parent.get, hq, ih, List.replicate_succ]

end PwVerif.C01
