import Lean.Meta.Tactic.Simp.RegisterCommand
/-- `simp [py_eval]` evaluates the interpreter of `Model/Py.lean` on a program given as a literal, statement by statement,
    on a state whose fields may be variables (the definitions are attached in `Lemmas/PyLoop.lean`). -/
register_simp_attr py_eval
