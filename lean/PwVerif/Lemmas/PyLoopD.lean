import PwVerif.Lemmas.PyLoop
/-!
Loops of the statement language under **one asynchronous event at an arbitrary landing point**, for an unbounded
number of items (continuation of `Lemmas/PyLoop.lean`).

The interpreter counts line events down (`St.left`); the event fires at the line event that finds the counter at 0.
From what one pass does while the counter is at least its length (`ItemSpecC`, `RelSpecC`: as undisturbed, the counter
lower by the length) and when it is not (`FireItem`, `FireRel`: the loop ends with the event, `Fired`), `loop_disturbed`
says how the loop is left for **every** number `n` of items and **every** initial counter: passed completely, the
counter still running, or left by the event after `j` complete passes (`extra`: what else must hold at the head of
every pass for the event to be delivered - `CtrlAlive` for the regenerated loops -, kept by a pass).
-/
namespace PwVerif.Py

theorem lineEvent_count (st : St) (ln k : Nat) (hl : st.left = some (k + 1)) (hf : st.inflight = none) :
    lineEvent st ln = ({ st with rtrace := ln :: st.rtrace, left := some k }, none) := by
  simp [lineEvent, hl, hf]

/-- what the event does to the two flags of the child's control thread when it fires -/
def firedReq (a : Async) (st : St) : Bool :=
  match a with
  | .raiseWte via => st.terminateReq || via
  | _ => st.terminateReq
def firedCtrl (a : Async) (st : St) : Bool :=
  match a with
  | .raiseWte via => if via then false else st.ctrlAlive
  | _ => st.ctrlAlive
def firedOut (a : Async) : Out :=
  match a with
  | .kill => .killed
  | _ => .raised .wte

theorem firedReq_congr (a₀ : Async) {a b : St} (h : a.terminateReq = b.terminateReq) : firedReq a₀ a = firedReq a₀ b := by
  cases a₀ <;> simp [firedReq, h]
theorem firedCtrl_congr (a₀ : Async) {a b : St} (h : a.ctrlAlive = b.ctrlAlive) : firedCtrl a₀ a = firedCtrl a₀ b := by
  cases a₀ <;> simp [firedCtrl, h]

/-- the loop was left by the event during the pass that started in `st` -/
structure Fired (a : Async) (st : St) (r : St × Out) : Prop where
  out : r.2 = firedOut a
  results : r.1.results = st.results ∨ r.1.results = st.results ++ [.item (st.counter + 1)]
  counter : r.1.counter = st.counter ∨ r.1.counter = st.counter + 1
  consistent : r.1.results = st.results ++ [.item (st.counter + 1)] → r.1.counter = st.counter + 1
  left : r.1.left = none
  inflight : r.1.inflight = none
  req : r.1.terminateReq = firedReq a st
  ctrl : r.1.ctrlAlive = firedCtrl a st
  -- untouched
  cur : r.1.cur = st.cur
  result : r.1.result = st.result
  var : r.1.var = st.var
  comms : r.1.comms = st.comms
  commsClosed : r.1.commsClosed = st.commsClosed
  cleaned : r.1.cleaned = st.cleaned
  stop : r.1.stop = st.stop
  async : r.1.async = st.async

/-- what is asked of the state at the head of a pass while the event `a` is still to come (`Quiet` of
    `Lemmas/PyLoop.lean` without `left = none`: the counter of line events is running) -/
structure QuietC (a : Async) (st : St) : Prop where
  inflight : st.inflight = none
  stop : st.stop = false
  async : st.async = a

/-- the asynchronous events covered: `terminate()` delivered by either mechanism, or a kill -/
def Covered (a : Async) : Prop := a = .raiseWte false ∨ a = .kill ∨ a = .raiseWte true

/-- the `extra` of `loop_disturbed` for the regenerated loops: a `terminate()` that goes through the child's control thread
    (process and remote kinds: `need`) is only delivered while that thread is alive -/
abbrev CtrlAlive (need : Bool) (st : St) : Prop := need = true → st.ctrlAlive = true

/-- (`B`: fuel for one pass. A pass is stated from behind the line event of the loop header `ln` - hence `rtrace := ln :: ..`
    and a counter that this event has lowered already -, so `L` counts the line events of the body and a whole pass has
    `L + 1`: `loopLen`.) -/
def ItemSpecC (env : Env) (B ln : Nat) (body : List Stmt) (L : Nat) : Prop :=
  ∀ (st : St) (rest : List Input) (m : Nat), st.inputs = .item :: rest → st.inflight = none → st.stop = false →
    (execBlock env B { st with rtrace := ln :: st.rtrace, left := some (m + L) } body).2 = .normal ∧
    (execBlock env B { st with rtrace := ln :: st.rtrace, left := some (m + L) } body).1 =
      { st with rtrace := (execBlock env B { st with rtrace := ln :: st.rtrace, left := some (m + L) } body).1.rtrace,
                left := some m, inputs := rest, extraNone := false, counter := st.counter + 1,
                results := st.results ++ [.item (st.counter + 1)] }

def RelSpecC (env : Env) (B ln : Nat) (body : List Stmt) (Lr : Nat) : Prop :=
  ∀ (st : St) (rest : List Input) (m : Nat), st.inputs = .release :: rest → st.inflight = none → st.stop = false →
    (execBlock env B { st with rtrace := ln :: st.rtrace, left := some (m + Lr) } body).2 = .broke ∧
    (execBlock env B { st with rtrace := ln :: st.rtrace, left := some (m + Lr) } body).1 =
      { st with rtrace := (execBlock env B { st with rtrace := ln :: st.rtrace, left := some (m + Lr) } body).1.rtrace,
                left := some m, inputs := rest, extraNone := true }

/-- a pass over an item that starts with fewer line events left than it has: the event fires inside -/
def FireItem (env : Env) (B : Nat) (W : Stmt) (a : Async) (L : Nat) (extra : St → Prop) : Prop :=
  ∀ (st : St) (rest : List Input) (K : Nat), K ≤ L → st.inputs = .item :: rest → st.left = some K → QuietC a st → extra st →
    Fired a st (exec env B st W)

/-- the same for the pass that receives the release marker: no result message is written in it -/
def FireRel (env : Env) (B : Nat) (W : Stmt) (a : Async) (Lr : Nat) (extra : St → Prop) : Prop :=
  ∀ (st : St) (rest : List Input) (K : Nat), K ≤ Lr → st.inputs = .release :: rest → st.left = some K → QuietC a st → extra st →
    Fired a st (exec env B st W) ∧ (exec env B st W).1.results = st.results

/-- line events of the body during a pass that receives `i` (run on its own, in the environment `{}` of the
    theorems; fuel 60 is more than a regenerated body needs) -/
def passLen (body : List Stmt) (i : Input) : Nat := (execBlock {} 60 { inputs := [i] } body).1.rtrace.length

/-- line events of a loop that processes `n` items and then the release marker -/
def loopLen (n L Lr : Nat) : Nat := n * (L + 1) + (Lr + 1)

theorem loopLen_zero (L Lr : Nat) : loopLen 0 L Lr = Lr + 1 := by simp [loopLen]
theorem loopLen_succ (n L Lr : Nat) : loopLen (n + 1) L Lr = loopLen n L Lr + (L + 1) := by
  simp only [loopLen, Nat.succ_mul]; omega

/-- how the loop is left when it is entered with `K` line events to go before the event -/
inductive LoopOut (a : Async) (n L Lr K : Nat) (st : St) (r : St × Out) : Prop where
  /-- every item and the release marker were processed; the event is still to come -/
  | passed (hK : loopLen n L Lr ≤ K) (hout : r.2 = .normal)
      (heq : r.1 = { st with rtrace := r.1.rtrace, left := some (K - loopLen n L Lr), inputs := [], extraNone := true,
                             counter := st.counter + n, results := st.results ++ itemsFrom st.counter n })
  /-- the event fired after `j` complete passes, in the pass that started with `j` results written -/
  | fired (hK : K < loopLen n L Lr) (j : Nat) (hj : j ≤ n) (mid : St)
      (hmid : mid.counter = st.counter + j ∧ mid.results = st.results ++ itemsFrom st.counter j ∧
              mid.cur = st.cur ∧ mid.result = st.result ∧ mid.var = st.var ∧ mid.comms = st.comms ∧
              mid.commsClosed = st.commsClosed ∧ mid.cleaned = st.cleaned ∧ mid.stop = st.stop ∧ mid.async = st.async ∧
              mid.terminateReq = st.terminateReq ∧ mid.ctrlAlive = st.ctrlAlive)
      (hfired : Fired a mid r)
      (hroom : r.1.results = mid.results ++ [.item (mid.counter + 1)] → j + 1 ≤ n)

theorem firedOut_ne_fuel (a : Async) : firedOut a ≠ .fuel := by cases a <;> simp [firedOut]

theorem itemsFrom_snoc (c n : Nat) : [Msg.item (c + 1)] ++ itemsFrom (c + 1) n = itemsFrom c (n + 1) := rfl

theorem loop_disturbed (env : Env) (B ln : Nat) (c : Cond) (body : List Stmt) (a : Async) (L Lr : Nat) (extra : St → Prop)
    (hcond : ∀ st : St, st.stop = false → evalCond st env c = true)
    (hitem : ItemSpecC env B ln body L) (hrel : RelSpecC env B ln body Lr)
    (hfi : FireItem env B (.whileS ln c body) a L extra)
    (hfr : FireRel env B (.whileS ln c body) a Lr extra)
    (hextra : ∀ (st : St) (t : List Nat) (l : Option Nat) (i : List Input) (e : Bool) (cn : Nat) (rs : List Msg),
      extra st → extra { st with rtrace := t, left := l, inputs := i, extraNone := e, counter := cn, results := rs }) :
    ∀ n : Nat, ∃ F, B ≤ F ∧ ∀ (st : St) (K : Nat), st.inputs = List.replicate n .item ++ [.release] → st.left = some K →
      QuietC a st → extra st → LoopOut a n L Lr K st (exec env F st (.whileS ln c body)) := by
  intro n
  induction n with
  | zero =>
    refine ⟨B + 1, Nat.le_succ _, ?_⟩
    intro st K hi hl hq hx
    simp only [List.replicate, List.nil_append] at hi
    by_cases hK : K ≤ Lr
    · -- the event fires in the pass that would have received the release marker
      obtain ⟨hfire, hres⟩ := hfr st [] K hK hi hl hq hx
      have hm := exec_mono env (rfl : exec env B st (.whileS ln c body) = _) (by rw [hfire.out]; exact firedOut_ne_fuel a)
        (B + 1) (Nat.le_succ _)
      rw [hm]
      refine .fired (by rw [loopLen_zero]; omega) 0 (Nat.le_refl _) st
        ⟨by simp, by simp [itemsFrom], rfl, rfl, rfl, rfl, rfl, rfl, rfl, rfl, rfl, rfl⟩ hfire ?_
      intro h
      rw [hres] at h
      have := congrArg List.length h
      simp at this
    · -- the whole pass goes by: the loop is left by `break`
      obtain ⟨m, rfl⟩ : ∃ m, K = m + Lr + 1 := ⟨K - Lr - 1, by omega⟩
      obtain ⟨h2, h1⟩ := hrel st [] m hi hq.inflight hq.stop
      generalize hr : execBlock env B { st with rtrace := ln :: st.rtrace, left := some (m + Lr) } body = rb at h1 h2
      obtain ⟨stb, ob⟩ := rb
      simp only at h1 h2
      subst h2
      rw [while_break env ln c body st _ stb B (lineEvent_count st ln _ hl hq.inflight) (hcond _ hq.stop) hr]
      have hm : m + Lr + 1 - loopLen 0 L Lr = m := by rw [loopLen_zero]; omega
      refine .passed (by rw [loopLen_zero]; omega) rfl ?_
      simp only [itemsFrom, Nat.add_zero, List.append_nil, hm]
      rw [h1]
  | succ n ih =>
    obtain ⟨F, -, ih⟩ := ih
    refine ⟨max B F + 1, by omega, ?_⟩
    intro st K hi hl hq hx
    simp only [List.replicate, List.cons_append] at hi
    by_cases hK : K ≤ L
    · -- the event fires in this pass
      have hfire := hfi st _ K hK hi hl hq hx
      have hm := exec_mono env (rfl : exec env B st (.whileS ln c body) = _) (by rw [hfire.out]; exact firedOut_ne_fuel a)
        (max B F + 1) (by omega)
      rw [hm]
      exact .fired (by rw [loopLen_succ]; omega) 0 (Nat.zero_le _) st
        ⟨by simp, by simp [itemsFrom], rfl, rfl, rfl, rfl, rfl, rfl, rfl, rfl, rfl, rfl⟩ hfire (fun _ => by omega)
    · obtain ⟨m, rfl⟩ : ∃ m, K = m + L + 1 := ⟨K - L - 1, by omega⟩
      obtain ⟨h2, h1⟩ := hitem st _ m hi hq.inflight hq.stop
      generalize hr : execBlock env B { st with rtrace := ln :: st.rtrace, left := some (m + L) } body = rb at h1 h2
      obtain ⟨stb, ob⟩ := rb
      simp only at h1 h2
      subst h2
      generalize stb.rtrace = X at h1
      subst h1
      have hq' : QuietC a { st with rtrace := X, left := some m, inputs := List.replicate n Input.item ++ [Input.release], extraNone := false, counter := st.counter + 1, results := st.results ++ [Msg.item (st.counter + 1)] } :=
        ⟨hq.inflight, hq.stop, hq.async⟩
      have hpost := ih _ m rfl rfl hq' (hextra st _ _ _ _ _ _ hx)
      have hne : (exec env F { st with rtrace := X, left := some m, inputs := List.replicate n Input.item ++ [Input.release], extraNone := false, counter := st.counter + 1, results := st.results ++ [Msg.item (st.counter + 1)] } (.whileS ln c body)).2 ≠ .fuel := by
        cases hpost with
        | passed _ hout _ => rw [hout]; simp
        | fired _ j hj mid hmid hfired _ => rw [hfired.out]; exact firedOut_ne_fuel a
      rw [while_step env ln c body st _ _ B F _ (lineEvent_count st ln _ hl hq.inflight) (hcond _ hq.stop) hr rfl hne]
      cases hpost with
      | passed hK' hout heq =>
        have hm : m + L + 1 - loopLen (n + 1) L Lr = m - loopLen n L Lr := by rw [loopLen_succ]; omega
        refine .passed (by rw [loopLen_succ]; omega) hout ?_
        rw [heq, hm]
        simp [itemsFrom, Nat.add_assoc, Nat.add_comm 1 n]
      | fired hK' j hj mid hmid hfired hroom =>
        obtain ⟨m1, m2, m3, m4, m5, m6, m7, m8, m9, m10, m11, m12⟩ := hmid
        refine .fired (by rw [loopLen_succ]; omega) (j + 1) (by omega) mid ⟨?_, ?_, m3, m4, m5, m6, m7, m8, m9, m10, m11, m12⟩ hfired
          (fun h => by have := hroom h; omega)
        · rw [m1]; simp only; omega
        · rw [m2]; simp only [List.append_assoc, itemsFrom_snoc]

theorem itemsFrom_succ_right (c n : Nat) : itemsFrom c (n + 1) = itemsFrom c n ++ [.item (c + n + 1)] := by
  induction n generalizing c with
  | zero => simp [itemsFrom]
  | succ n ih =>
    have h := ih (c + 1)
    simp only [itemsFrom] at h ⊢
    rw [h]
    simp [Nat.add_assoc, Nat.add_comm 1 n]

/-- the loop was left by the event: what the code around the loop can observe (the flat form of `LoopOut.fired`) -/
structure LeftBy (a : Async) (n : Nat) (st : St) (r : St × Out) : Prop where
  out : r.2 = firedOut a
  prefix_ : ∃ j, j ≤ n ∧ r.1.results = st.results ++ itemsFrom st.counter j ∧
    (r.1.counter = st.counter + j ∨ r.1.counter = st.counter + j + 1)
  left : r.1.left = none
  inflight : r.1.inflight = none
  req : r.1.terminateReq = firedReq a st
  ctrl : r.1.ctrlAlive = firedCtrl a st
  cur : r.1.cur = st.cur
  result : r.1.result = st.result
  var : r.1.var = st.var
  comms : r.1.comms = st.comms
  commsClosed : r.1.commsClosed = st.commsClosed
  cleaned : r.1.cleaned = st.cleaned
  stop : r.1.stop = st.stop
  async : r.1.async = st.async

theorem LoopOut.leftBy {a : Async} {n L Lr K : Nat} {st : St} {r : St × Out} (h : LoopOut a n L Lr K st r) (hK : K < loopLen n L Lr) :
    LeftBy a n st r := by
  cases h with
  | passed hK' _ _ => omega
  | fired _ j hj mid hmid hf hroom =>
    obtain ⟨m1, m2, m3, m4, m5, m6, m7, m8, m9, m10, m11, m12⟩ := hmid
    refine ⟨hf.out, ?_, hf.left, hf.inflight, hf.req.trans (firedReq_congr a m11), hf.ctrl.trans (firedCtrl_congr a m12), by rw [hf.cur, m3], by rw [hf.result, m4],
      by rw [hf.var, m5], by rw [hf.comms, m6], by rw [hf.commsClosed, m7], by rw [hf.cleaned, m8], by rw [hf.stop, m9], by rw [hf.async, m10]⟩
    rcases hf.results with h | h
    · refine ⟨j, hj, by rw [h, m2], ?_⟩
      rcases hf.counter with hc | hc
      · left; rw [hc, m1]
      · right; rw [hc, m1]
    · refine ⟨j + 1, hroom h, ?_, ?_⟩
      · rw [h, m2, m1, itemsFrom_succ_right, List.append_assoc]
      · left; rw [hf.consistent h, m1]; omega

theorem forall_lt_succ' {P : Nat → Prop} {k : Nat} (h1 : ∀ m, m < k → P m) (h2 : P k) : ∀ m, m < k + 1 → P m := by
  intro m hm
  by_cases h : m = k
  · subst h; exact h2
  · exact h1 m (by omega)

/-- what `loop_disturbed` concludes, for one `n` and one fuel (`PKind.loop_disturbed`) -/
def LoopSummary (env : Env) (a : Async) (n L Lr F : Nat) (W : Stmt) (extra : St → Prop) : Prop :=
  ∀ (st : St) (K : Nat), st.inputs = List.replicate n .item ++ [.release] → st.left = some K →
    QuietC a st → extra st → LoopOut a n L Lr K st (exec env F st W)

/-- a loop that is entered with enough line events to go is passed completely: `LoopOut.passed` as an equation for the
    run at every fuel from `F` on (in the shape of a conditional rewriting rule: hypotheses on projections of `st`, the
    right-hand side free of `exec`); `sim_passedLoop` is its user -/
theorem loop_pass_rule (env : Env) (a : Async) (n L Lr F : Nat) (W : Stmt) (extra : St → Prop) (hF : LoopSummary env a n L Lr F W extra) :
    ∀ (k : Nat) (st : St), st.inputs = List.replicate n .item ++ [.release] → st.left.isSome = true →
      loopLen n L Lr ≤ st.left.getD 0 → st.inflight = none → st.stop = false → st.async = a → extra st →
      exec env (F + k) st W = ({ st with rtrace := loopTr env F st W, left := some (st.left.getD 0 - loopLen n L Lr), inputs := [], extraNone := true, counter := st.counter + n, results := st.results ++ itemsFrom st.counter n }, .normal) := by
  intro k st hi hl hK hf hs ha hc
  obtain ⟨K, hK'⟩ := Option.isSome_iff_exists.mp hl
  rw [hK'] at hK
  simp only [Option.getD_some] at hK
  have h := hF st K hi hK' ⟨hf, hs, ha⟩ hc
  have : exec env F st W = ({ st with rtrace := loopTr env F st W, left := some (st.left.getD 0 - loopLen n L Lr), inputs := [], extraNone := true, counter := st.counter + n, results := st.results ++ itemsFrom st.counter n }, .normal) := by
    cases h with
    | passed _ hout heq =>
      apply Prod.ext
      · rw [hK']; exact heq
      · exact hout
    | fired hlt _ _ _ _ _ _ => omega
  exact exec_mono env this (by simp) _ (Nat.le_add_right _ _)

/-- the state in which the loop is left, named so that the right-hand side of `loop_fire_rule` does not mention `exec` -/
def loopEx (env : Env) (F : Nat) (st : St) (W : Stmt) : St := (exec env F st W).1

/-- a loop that is entered with fewer line events to go than it has is left by the event (`LoopOut.fired` as an equation,
    as `loop_pass_rule`); whatever the
    code around the loop can read of the exit state is known, but for the number of results written (`loop_fire_prefix`) -/
theorem loop_fire_rule (env : Env) (a : Async) (n L Lr F : Nat) (W : Stmt) (extra : St → Prop) (hF : LoopSummary env a n L Lr F W extra) :
    ∀ (k : Nat) (st : St), st.inputs = List.replicate n .item ++ [.release] → st.left.isSome = true →
      st.left.getD 0 < loopLen n L Lr → st.inflight = none → st.stop = false → st.async = a → extra st →
      exec env (F + k) st W = ({ st with rtrace := (loopEx env F st W).rtrace, inputs := (loopEx env F st W).inputs, extraNone := (loopEx env F st W).extraNone, raisedAt := (loopEx env F st W).raisedAt, ustate := (loopEx env F st W).ustate, results := (loopEx env F st W).results, counter := (loopEx env F st W).counter, left := none, inflight := none, terminateReq := firedReq a st, ctrlAlive := firedCtrl a st }, firedOut a) := by
  intro k st hi hl hK hf hs ha hc
  obtain ⟨K, hK'⟩ := Option.isSome_iff_exists.mp hl
  rw [hK'] at hK
  simp only [Option.getD_some] at hK
  have h := (hF st K hi hK' ⟨hf, hs, ha⟩ hc).leftBy hK
  have : exec env F st W = ({ st with rtrace := (loopEx env F st W).rtrace, inputs := (loopEx env F st W).inputs, extraNone := (loopEx env F st W).extraNone, raisedAt := (loopEx env F st W).raisedAt, ustate := (loopEx env F st W).ustate, results := (loopEx env F st W).results, counter := (loopEx env F st W).counter, left := none, inflight := none, terminateReq := firedReq a st, ctrlAlive := firedCtrl a st }, firedOut a) := by
    obtain ⟨hout, _, h1, h2, h3, h4, h5, h6, h7, h8, h9, h10, h11, h12⟩ := h
    unfold loopEx
    generalize exec env F st W = r at *
    obtain ⟨r1, r2⟩ := r
    simp only at hout h1 h2 h3 h4 h5 h6 h7 h8 h9 h10 h11 h12
    subst hout
    cases r1
    cases st
    simp only at h1 h2 h3 h4 h5 h6 h7 h8 h9 h10 h11 h12 ⊢
    subst h1 h2 h3 h4 h5 h6 h7 h8 h9 h10 h11 h12
    rfl
  exact exec_mono env this (firedOut_ne_fuel a) _ (Nat.le_add_right _ _)

theorem loop_fire_prefix (env : Env) (a : Async) (n L Lr F : Nat) (W : Stmt) (extra : St → Prop) (hF : LoopSummary env a n L Lr F W extra)
    (st : St) (K : Nat) (hi : st.inputs = List.replicate n .item ++ [.release]) (hl : st.left = some K) (hK : K < loopLen n L Lr)
    (hq : QuietC a st) (hx : extra st) :
    ∃ j, j ≤ n ∧ (loopEx env F st W).results = st.results ++ itemsFrom st.counter j :=
  let ⟨j, hj, h, _⟩ := ((hF st K hi hl hq hx).leftBy hK).prefix_
  ⟨j, hj, h⟩

end PwVerif.Py
