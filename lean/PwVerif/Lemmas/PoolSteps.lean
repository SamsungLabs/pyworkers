import PwVerif.Model.Pool
/-!
The Pool model as a transition system.

Every operation of the model is a finite sequence (`Run`) of a few *moves*, each carrying what the code has checked
before making it (`settle_run` ... `runEvents_run`); an invariant or a monotonicity property of the model is checked on
the moves and carried to every operation by `Run.lift` / `Run.rel` / `Run.inv`. Three layers, because not every property
is respected by every move: `Low` inside `handle_death`, `Mid` the pool's own moves elsewhere (each a run of `Low` moves:
`Mid.run`), `Ext` the events of a schedule, each taken with the pool's whole reaction to it. A move relates *ghost
states*: a state and the list `F` of inputs that `next_inputs` has handed out and that have not been placed yet.
-/
namespace PwVerif.Pool

theorem getW_eq (s : St) (w : Nat) (h : w < s.ws.length) : getW s w = s.ws[w] := by
  simp [getW, List.getElem?_eq_getElem h]

theorem getW_mem (s : St) (w : Nat) (h : w < s.ws.length) : getW s w ∈ s.ws := by
  rw [getW_eq s w h]
  exact List.getElem_mem h

theorem getW_oob (s : St) (w : Nat) (h : ¬ w < s.ws.length) : getW s w = {} := by
  simp [getW, List.getElem?_eq_none (by omega : s.ws.length ≤ w)]

theorem getW_congr {s t : St} (h : t.ws = s.ws) (j : Nat) : getW t j = getW s j := by
  simp [getW, h]

theorem setW_length (s : St) (w : Nat) (x : Worker) : (setW s w x).ws.length = s.ws.length := by
  simp [setW]

theorem setW_oob (s : St) (w : Nat) (x : Worker) (h : ¬ w < s.ws.length) : setW s w x = s := by
  simp [setW, List.set_eq_of_length_le (by omega : s.ws.length ≤ w)]

theorem setW_setW (s : St) (w : Nat) (x y : Worker) : setW (setW s w x) w y = setW s w y := by
  simp [setW]

theorem mem_setW {s : St} {w : Nat} {x y : Worker} (h : y ∈ (setW s w x).ws) : y = x ∨ y ∈ s.ws :=
  (List.mem_or_eq_of_mem_set h).symm

theorem getW_setW_same (s : St) (w : Nat) (x : Worker) (h : w < s.ws.length) : getW (setW s w x) w = x := by
  simp [getW, setW, h]

theorem getW_setW_other (s : St) (w j : Nat) (x : Worker) (h : j ≠ w) : getW (setW s w x) j = getW s j := by
  simp only [getW, setW]
  rw [List.getElem?_set_ne (by omega)]

theorem getW_setW (s : St) (w j : Nat) (x : Worker) (hw : w < s.ws.length) :
    getW (setW s w x) j = if j = w then x else getW s j := by
  by_cases hj : j = w
  · subst hj; simp [getW_setW_same s j x hw]
  · simp [hj, getW_setW_other s w j x hj]

@[simp] theorem setW_src (s : St) (w : Nat) (x : Worker) : (setW s w x).src = s.src := rfl
@[simp] theorem setW_retries (s : St) (w : Nat) (x : Worker) : (setW s w x).retries = s.retries := rfl
@[simp] theorem setW_ret (s : St) (w : Nat) (x : Worker) : (setW s w x).ret = s.ret := rfl
@[simp] theorem setW_pending (s : St) (w : Nat) (x : Worker) : (setW s w x).pending = s.pending := rfl
@[simp] theorem setW_depleted (s : St) (w : Nat) (x : Worker) : (setW s w x).depleted = s.depleted := rfl
@[simp] theorem setW_err (s : St) (w : Nat) (x : Worker) : (setW s w x).err = s.err := rfl
@[simp] theorem setW_dropped (s : St) (w : Nat) (x : Worker) : (setW s w x).dropped = s.dropped := rfl

theorem markDead_ws (c : Cfg) (s : St) (w : Nat) :
    (markDead c s w).ws = (setW s w { getW s w with ppw := [], closed := true }).ws := by
  unfold markDead; cases c.retry <;> rfl

theorem markDead_depleted (c : Cfg) (s : St) (w : Nat) : (markDead c s w).depleted = s.depleted := by
  unfold markDead; cases c.retry <;> rfl

theorem putBack_true (s : St) (inp : Inp) : putBack s inp true = { s with retries := inp :: s.retries } := rfl
theorem putBack_false (s : St) (inp : Inp) : putBack s inp false = { s with retries := s.retries ++ [inp] } := rfl

theorem unused_ws (c : Cfg) (s : St) (inp : Inp) (fr : Bool) : (unused c s inp fr).ws = s.ws := by
  unfold unused putBack; cases c.retry <;> cases fr <;> rfl

theorem giveUp_ws (c : Cfg) (s : St) (w : Nat) (inp : Inp) : (giveUp c s w inp).ws = s.ws := by
  unfold giveUp; cases c.retry <;> rfl

theorem unused_err (c : Cfg) (s : St) (inp : Inp) (fr : Bool) : (unused c s inp fr).err = s.err := by
  unfold unused putBack; cases c.retry <;> cases fr <;> rfl

theorem giveUp_err (c : Cfg) (s : St) (w : Nat) (inp : Inp) : (giveUp c s w inp).err = s.err := by
  unfold giveUp; cases c.retry <;> rfl

theorem markDead_err (c : Cfg) (s : St) (w : Nat) : (markDead c s w).err = s.err := by
  unfold markDead; cases c.retry <;> rfl

theorem doEnqueue_err (s : St) (w : Nat) (inp : Inp) : (doEnqueue s w inp).err = s.err := rfl

theorem closed_markDead (c : Cfg) (s : St) (w : Nat) (hw : w < s.ws.length) :
    (getW (markDead c s w) w).closed = true := by
  rw [getW_congr (markDead_ws c s w), getW_setW_same s w _ hw]

theorem nextInputs_retry {s : St} {r : Inp} {rs : List Inp} (hr : s.retries = r :: rs) :
    nextInputs s = (some (true, r), { s with retries := rs }) := by
  simp [nextInputs, hr]

theorem nextInputs_depleted {s : St} (hr : s.retries = []) (hd : s.depleted = true) : nextInputs s = (none, s) := by
  simp [nextInputs, hr, hd]

theorem nextInputs_nil {s : St} (hr : s.retries = []) (hd : s.depleted = false) (hs : s.src = []) :
    nextInputs s = (none, { s with depleted := true }) := by
  simp [nextInputs, hr, hd, hs]

theorem nextInputs_src {s : St} {i : Inp} {rest : List Inp} (hr : s.retries = []) (hd : s.depleted = false)
    (hs : s.src = i :: rest) : nextInputs s = (some (false, i), { s with src := rest }) := by
  simp [nextInputs, hr, hd, hs]

theorem onPoll_oob (c : Cfg) (pick : List Nat → Option Nat) (s : St) (w : Nat) (h : ¬ w < s.ws.length) :
    onPoll c pick s w = s := by
  unfold onPoll
  rw [getW_oob s w h]
  simp

theorem outcome_spec {s : St} {o : Outcome} (h : outcome s = o) :
    match (generalizing := false) o with
    | .internal e => s.err = some e
    | .waiting => s.err = none ∧ running s = true
    | .returned ret => s.err = none ∧ s.depleted = true ∧ s.pending = 0 ∧ s.retries = [] ∧ ret = s.ret
    | .poolError part =>
      s.err = none ∧ running s = false ∧ ¬ (s.depleted = true ∧ s.pending = 0 ∧ s.retries = []) ∧ part = s.ret := by
  subst h
  fun_cases outcome s
  case case1 e he => exact he
  case case2 he hrun => exact ⟨he, hrun⟩
  case case3 he _ hexit =>
    simp only [Bool.and_eq_true, decide_eq_true_eq, List.isEmpty_iff] at hexit
    exact ⟨he, hexit.1.1, hexit.1.2, hexit.2, rfl⟩
  case case4 he hrun hexit =>
    refine ⟨he, by simpa using hrun, fun hq => hexit ?_, rfl⟩
    simp [hq.1, hq.2.1, hq.2.2]

def PickOK (pick : List Nat → Option Nat) : Prop := ∀ l w, pick l = some w → w ∈ l

theorem mem_idleFrom {ws : List Worker} {k w : Nat} (h : w ∈ idleFrom ws k) :
    ∃ j, w = k + j ∧ ∃ hj : j < ws.length, ws[j].ppw = [] ∧ ws[j].closed = false := by
  fun_induction idleFrom ws k with
  | case1 => cases h
  | case2 x xs k hx ih =>
    rcases List.mem_cons.mp h with rfl | h
    · exact ⟨0, rfl, by simp, by simpa using hx⟩
    · obtain ⟨j, hj, hlt, hp⟩ := ih h
      exact ⟨j + 1, by omega, by simpa using hlt, by simpa using hp⟩
  | case3 x xs k _ ih =>
    obtain ⟨j, hj, hlt, hp⟩ := ih h
    exact ⟨j + 1, by omega, by simpa using hlt, by simpa using hp⟩

theorem mem_idle {s : St} {w : Nat} (h : w ∈ idle s) :
    w < s.ws.length ∧ (getW s w).ppw = [] ∧ (getW s w).closed = false := by
  obtain ⟨j, hj, hlt, hp⟩ := mem_idleFrom h
  have : w = j := by omega
  subst this
  exact ⟨hlt, by simpa [getW_eq s w hlt] using hp⟩

theorem mem_avail {s : St} {skip : List Nat} {w : Nat} (h : w ∈ avail s skip) : w ∈ idle s :=
  (List.mem_filter.mp h).1

abbrev Rel := List Inp → St → List Inp → St → Prop

/-- `Seen x x'`: the pool has read EOF or the end marker from the queue of worker `x`; `x'` is the worker after that read -/
inductive Seen : Worker → Worker → Prop
  | eof {x : Worker} : x.queue = true → x.chan = [] → x.eof = true → Seen x { x with queue := false }
  | marker {x : Worker} {rest : List Msg} : x.queue = true → x.chan = .endMarker :: rest → Seen x { x with chan := rest }

theorem Seen.ppw {x x' : Worker} (h : Seen x x') : x'.ppw = x.ppw := by cases h <;> rfl
theorem Seen.closed {x x' : Worker} (h : Seen x x') : x'.closed = x.closed := by cases h <;> rfl
theorem Seen.alive {x x' : Worker} (h : Seen x x') : x'.alive = x.alive := by cases h <;> rfl

/-- `Local x x'`: an event that makes worker `x` into `x'` and to which the pool's bookkeeping does not react - the
    worker works or dies, the pool reads EOF or a message from the queue of a worker it has closed already -/
inductive Local : Worker → Worker → Prop
  | eof {x : Worker} : x.closed = true → x.queue = true → x.chan = [] → x.eof = true → Local x { x with queue := false }
  | stale {x : Worker} {m : Msg} {rest : List Msg} : x.closed = true → x.queue = true → x.chan = m :: rest →
      Local x { x with chan := rest }
  | work {x : Worker} {i : Inp} {rest : List Inp} : x.alive = true → x.inbox = i :: rest →
      Local x { x with inbox := rest, chan := x.chan ++ [.res i] }
  | die {x : Worker} (marker : Bool) : x.alive = true →
      Local x { x with alive := false, lost := x.lost ++ x.inbox, inbox := [],
                       chan := if marker then x.chan ++ [.endMarker] else x.chan, eof := true }

theorem Local.ppw {x x' : Worker} (h : Local x x') : x'.ppw = x.ppw := by cases h <;> rfl
theorem Local.closed {x x' : Worker} (h : Local x x') : x'.closed = x.closed := by cases h <;> rfl

/-- bookkeeping: `next_inputs`, `handle_unused_data`, a successful `enqueue`. Inside `handle_death` the worker is the
    one `pick` has returned: what is known of it rests on `pick` returning one of the workers it was offered, and is
    stated under a proviso `G` (`Low.book`: one that `PickOK pick` grants; `Mid.book`: `True`). -/
inductive Book (c : Cfg) (G : Prop) : Rel
  | popRetry {F s inp rest} : s.retries = inp :: rest → Book c G F s (inp :: F) { s with retries := rest }
  | popSrc {F s inp rest} : s.retries = [] → s.depleted = false → s.src = inp :: rest →
      Book c G F s (inp :: F) { s with src := rest }
  | deplete {F s} : s.retries = [] → s.src = [] → Book c G F s F { s with depleted := true }
  | back {F s w inp} (fr : Bool) : c.refuse w inp = true → Book c G (inp :: F) s F (putBack s inp fr)
  | unused {F s w inp} (fr : Bool) : (G → w < s.ws.length ∧ (getW s w).closed = true) →
      Book c G (inp :: F) s F (unused c (giveUp c s w inp) inp fr)
  | enq {F s w inp} : (G → w < s.ws.length ∧ (getW s w).closed = false) → (getW s w).alive = true →
      Book c G (inp :: F) s F (doEnqueue s w inp)

inductive Low (c : Cfg) (pick : List Nat → Option Nat) : Rel
  | book {G F s F' t} : (PickOK pick → G) → Book c G F s F' t → Low c pick F s F' t
  | mark {F s w} : (PickOK pick → w < s.ws.length ∧ (getW s w).closed = false) → Low c pick F s F (markDead c s w)
  | fuel {F s} : Low c pick F s F { s with err := some .outOfFuel }

inductive Mid (c : Cfg) (pick : List Nat → Option Nat) : Rel
  | book {F s F' t} : Book c True F s F' t → Mid c pick F s F' t
  | death {F s w} : w < s.ws.length → (getW s w).closed = false → (getW s w).alive = false →
      Mid c pick F s F (handleDeath c pick s w)

/-- events, each with the pool's whole reaction to it: a message is read from the queue of worker `w` (EOF or the end
    marker of a worker not yet closed: all of `handle_death`; a result: `try_enqueue`), or something happens that the
    pool does not react to. The pool reads its queues only while no error has occurred; `death` records it (`K`
    needs it there). -/
inductive Ext (c : Cfg) (pick : List Nat → Option Nat) : Rel
  | death {F s w x'} : s.err = none → w < s.ws.length → (getW s w).closed = false → Seen (getW s w) x' →
      Ext c pick F s F (handleDeath c pick (setW s w x') w)
  | result {F s w i rest p ppw'} : w < s.ws.length → (getW s w).closed = false → (getW s w).queue = true →
      (getW s w).chan = .res i :: rest → (getW s w).ppw = p :: ppw' →
      Ext c pick F s F (tryEnqueue c pick { setW s w { getW s w with chan := rest, ppw := ppw' } with
        pending := s.pending - 1, ret := if c.returnResults then s.ret ++ [i] else s.ret } w).1
  | popEmpty {F s w i rest} : w < s.ws.length → (getW s w).closed = false → (getW s w).queue = true →
      (getW s w).chan = .res i :: rest → (getW s w).ppw = [] →
      Ext c pick F s F { setW s w { getW s w with chan := rest } with err := some .popEmpty }
  | loc {F s w x'} : w < s.ws.length → Local (getW s w) x' → Ext c pick F s F (setW s w x')

inductive Run (A : Rel) : Rel
  | refl {F s} : Run A F s F s
  | head {F s F' t F'' u} : A F s F' t → Run A F' t F'' u → Run A F s F'' u

theorem Run.single {A : Rel} {F s F' t} (h : A F s F' t) : Run A F s F' t := .head h .refl

theorem Run.trans {A : Rel} {F s F' t F'' u} (h1 : Run A F s F' t) (h2 : Run A F' t F'' u) : Run A F s F'' u := by
  induction h1 with
  | refl => exact h2
  | head a _ ih => exact .head a (ih h2)

theorem Run.lift {A R : Rel} {F s F' t} (r : Run A F s F' t) (refl : ∀ F s, R F s F s)
    (trans : ∀ {F s F' t F'' u}, R F s F' t → R F' t F'' u → R F s F'' u) (h : ∀ {F s F' t}, A F s F' t → R F s F' t) :
    R F s F' t := by
  induction r with
  | refl => exact refl _ _
  | head a _ ih => exact trans (h a) ih

theorem Run.rel {A : Rel} {R : St → St → Prop} {F s F' t} (r : Run A F s F' t) (refl : ∀ s, R s s)
    (trans : ∀ {a b d}, R a b → R b d → R a d) (h : ∀ {F s F' t}, A F s F' t → R s t) : R s t :=
  r.lift (R := fun _ s _ t => R s t) (fun _ => refl) trans h

theorem Run.inv {A : Rel} {P : List Inp → St → Prop} {F s F' t} (r : Run A F s F' t)
    (h : ∀ {F s F' t}, A F s F' t → P F s → P F' t) : P F s → P F' t :=
  r.lift (R := fun F s F' t => P F s → P F' t) (fun _ _ => id) (fun f g p => g (f p)) h

/-- What every move respects. The decomposition below needs `len` and `closed` itself, to carry the checks
    `w < s.ws.length` and "`w` is closed" across nested calls; `queue` serves `QInv` (`Lemmas/PoolQ.lean`) and speaks of the
    workers still open in `t` only: the pool forgets the queue of a worker whose EOF it has read (`Seen.eof`) one step
    before it closes the worker. -/
structure Mon (s t : St) : Prop where
  len : t.ws.length = s.ws.length
  closed : ∀ j, (getW s j).closed = true → (getW t j).closed = true
  queue : ∀ j, (getW t j).closed = false → (getW t j).queue = (getW s j).queue

theorem Mon.refl (s : St) : Mon s s := ⟨rfl, fun _ h => h, fun _ _ => rfl⟩

theorem Mon.open_of {s t : St} (h : Mon s t) {j : Nat} (hc : (getW t j).closed = false) : (getW s j).closed = false :=
  Bool.eq_false_iff.mpr fun hs => by rw [h.closed j hs] at hc; cases hc

theorem Mon.trans {a b d : St} (h1 : Mon a b) (h2 : Mon b d) : Mon a d :=
  ⟨by rw [h2.len, h1.len], fun j h => h2.closed j (h1.closed j h),
    fun j h => by rw [h2.queue j h, h1.queue j (h2.open_of h)]⟩

theorem Mon.of_ws {s t : St} (h : t.ws = s.ws) : Mon s t :=
  ⟨by rw [h], fun j hc => by rwa [getW_congr h], fun j _ => by rw [getW_congr h]⟩

theorem Run.mon {A : Rel} {F s F' t} (r : Run A F s F' t) (h : ∀ {F s F' t}, A F s F' t → Mon s t) : Mon s t :=
  r.rel Mon.refl Mon.trans h

theorem mon_setW {s t : St} (w : Nat) (x : Worker) (h : t.ws = (setW s w x).ws)
    (hc : (getW s w).closed = true → x.closed = true) (hq : x.closed = false → x.queue = (getW s w).queue) :
    Mon s t := by
  refine Mon.trans ?_ (Mon.of_ws h)
  by_cases hw : w < s.ws.length
  · refine ⟨setW_length _ _ _, fun j h => ?_, fun j h => ?_⟩
    · rw [getW_setW s w j x hw]; split
      · rename_i e; exact hc (e ▸ h)
      · exact h
    · rw [getW_setW s w j x hw] at h ⊢; split
      · rename_i e; rw [if_pos e] at h; rw [e]; exact hq h
      · rfl
  · rw [setW_oob s w x hw]; exact Mon.refl s

theorem mon_markDead (c : Cfg) (s : St) (w : Nat) : Mon s (markDead c s w) :=
  mon_setW w _ (markDead_ws c s w) (fun _ => rfl) (fun h => by cases h)

theorem mon_book {c : Cfg} {G : Prop} {F s F' t} (h : Book c G F s F' t) : Mon s t := by
  cases h with
  | popRetry | popSrc | deplete => exact Mon.of_ws rfl
  | back fr => exact Mon.of_ws (by cases fr <;> rfl)
  | unused fr => exact Mon.of_ws (by rw [unused_ws, giveUp_ws])
  | @enq _ _ w => exact mon_setW w _ rfl (fun h => h) (fun _ => rfl)

theorem mon_low {c : Cfg} {pick : List Nat → Option Nat} {F s F' t} (h : Low c pick F s F' t) : Mon s t := by
  cases h with
  | book _ h => exact mon_book h
  | mark => exact mon_markDead _ _ _
  | fuel => exact Mon.of_ws rfl

section
variable {c : Cfg} {pick : List Nat → Option Nat}

theorem settle_run (fuel : Nat) (skip : List Nat) (F : List Inp) (s : St) :
    Run (Low c pick) F s F (settle c pick fuel skip s) := by
  -- the cases of `settle`: 1-3 out of fuel (retry list empty / nobody to pick / `outOfFuel`), 4 retry list empty,
  -- 5 nobody to pick, 6 a worker `w` is offered the head `inp` of the retry list
  fun_induction settle c pick fuel skip s generalizing F with
  | case1 | case2 | case4 | case5 => exact .refl
  | case3 => exact .single .fuel
  | case6 fuel skip s inp rest hr w hpk waiting s1 s' ih1 ih2 =>
    have hi : PickOK pick → w < s.ws.length ∧ (getW s w).closed = false := fun hp =>
      have h := mem_idle (mem_avail (hp _ _ hpk)); ⟨h.1, h.2.2⟩
    refine .head (.book id (.popRetry hr)) (Run.trans ?_ (ih2 F))
    unfold s'
    split
    · rename_i hrf; exact .single (.book id (.back true hrf))
    · split
      · rename_i ha; exact .single (.book id (.enq hi ha))
      · -- the worker is dead: `handle_death` with its own loop, then the input goes back
        have hm := (ih1 (inp :: F)).mon mon_low
        refine .head (.mark hi) ((ih1 _).trans (.single (.book id (.unused true fun hp => ⟨?_, ?_⟩))))
        · rw [hm.len, (mon_markDead c _ w).len]; exact (hi hp).1
        · exact hm.closed w (closed_markDead c _ w (hi hp).1)

theorem handleDeath_run (F : List Inp) {s : St} {w : Nat} (hw : w < s.ws.length)
    (hcl : (getW s w).closed = false) : Run (Low c pick) F s F (handleDeath c pick s w) :=
  .head (.mark fun _ => ⟨hw, hcl⟩) (settle_run _ _ F _)

/-- the `handle_death` of `Ext.death`, from the state in which the pool has read what `Seen` says -/
theorem death_run (F : List Inp) {s : St} {w : Nat} {x' : Worker} (hw : w < s.ws.length)
    (hcl : (getW s w).closed = false) (hs : Seen (getW s w) x') :
    Run (Low c pick) F (setW s w x') F (handleDeath c pick (setW s w x') w) :=
  handleDeath_run F (by rw [setW_length]; exact hw) (by rw [getW_setW_same s w x' hw, hs.closed]; exact hcl)

theorem closed_handleDeath (s : St) (w : Nat) (hw : w < s.ws.length) :
    (getW (handleDeath c pick s w) w).closed = true :=
  ((settle_run _ _ [] _).mon (mon_low (c := c) (pick := pick))).closed w (closed_markDead c s w hw)

theorem Mid.run {F s F' t} (m : Mid c pick F s F' t) : Run (Low c pick) F s F' t := by
  cases m with
  | book b => exact .single (.book (fun _ => trivial) b)
  | death hw hcl => exact handleDeath_run _ hw hcl

theorem mon_mid {F s F' t} (h : Mid c pick F s F' t) : Mon s t :=
  h.run.mon mon_low

theorem nextInputs_run (F : List Inp) (s : St) :
    match nextInputs s with
    | (none, s') => Run (Mid c pick) F s F s'
    | (some (_, inp), s') => Run (Mid c pick) F s (inp :: F) s' := by
  fun_cases nextInputs s
  case case1 hr => exact .single (.book (.popRetry hr))
  case case2 => exact .refl
  case case3 hr _ hs => exact .single (.book (.deplete hr hs))
  case case4 hr hd _ _ hs => exact .single (.book (.popSrc hr (by simpa using hd) hs))

theorem tryEnqueue_run (F : List Inp) {s : St} {w : Nat} (hw : w < s.ws.length) :
    Run (Mid c pick) F s F (tryEnqueue c pick s w).1 := by
  have hn := nextInputs_run (c := c) (pick := pick) F s
  have key : ∀ {fr inp s'}, nextInputs s = (some (fr, inp), s') →
      Run (Mid c pick) F s (inp :: F) s' ∧ w < s'.ws.length := fun e => by
    rw [e] at hn; exact ⟨hn, by rw [(hn.mon mon_mid).len]; exact hw⟩
  fun_cases tryEnqueue c pick s w
  case case1 s' e => rw [e] at hn; exact hn
  case case2 fr inp s' e hcl =>
    obtain ⟨r, hw'⟩ := key e
    exact r.trans (.single (.book (.unused fr fun _ => ⟨hw', hcl⟩)))
  case case3 fr inp s' e _ hrf => exact (key e).1.trans (.single (.book (.back fr hrf)))
  case case4 fr inp s' e hcl _ ha =>
    obtain ⟨r, hw'⟩ := key e
    exact r.trans (.single (.book (.enq (fun _ => ⟨hw', by simpa using hcl⟩) ha)))
  case case5 fr inp s' e hcl _ ha =>
    -- `enqueue` raised: `handle_death`, then the input is put back or given up
    obtain ⟨r, hw'⟩ := key e
    have hd : Mid c pick (inp :: F) s' (inp :: F) (handleDeath c pick s' w) :=
      .death hw' (by simpa using hcl) (by simpa using ha)
    exact r.trans (.head hd (.single (.book (.unused fr fun _ =>
      ⟨by rw [(mon_mid hd).len]; exact hw', closed_handleDeath s' w hw'⟩))))

theorem firstRound_run (F : List Inp) (n k : Nat) (s : St) (hk : k + n ≤ s.ws.length) :
    Run (Mid c pick) F s F (firstRound c pick n k s).1 := by
  fun_induction firstRound c pick n k s with
  | case1 => exact .refl
  | case2 n k s _ ih => exact ih (by omega)
  | case3 n k s _ s' e => exact e ▸ tryEnqueue_run F (by omega)
  | case4 n k s _ s' e ih =>
    have h1 : Run (Mid c pick) F s F (s', true).1 := e ▸ tryEnqueue_run F (by omega)
    exact h1.trans (ih (by rw [(h1.mon mon_mid).len]; omega))

theorem firstEnqueue_run (F : List Inp) (rounds : Nat) (s : St) :
    Run (Mid c pick) F s F (firstEnqueue c pick rounds s) := by
  fun_induction firstEnqueue c pick rounds s with
  | case1 => exact .refl
  | case2 rounds s s' e => exact (e ▸ firstRound_run F s.ws.length 0 s (by omega) : Run _ F s F (s', false).1)
  | case3 rounds s s' e ih =>
    exact Run.trans (e ▸ firstRound_run F s.ws.length 0 s (by omega) : Run _ F s F (s', true).1) ih

/-- the `try_enqueue` of `Ext.result`, from the state in which the result has been taken -/
theorem result_run (F : List Inp) {s : St} {w : Nat} {x : Worker} {p : Int} {r : List Inp} (hw : w < s.ws.length) :
    Run (Mid c pick) F { setW s w x with pending := p, ret := r } F
      (tryEnqueue c pick { setW s w x with pending := p, ret := r } w).1 :=
  tryEnqueue_run F (by rw [setW_length]; exact hw)

theorem mon_ext {F s F' t} (h : Ext c pick F s F' t) : Mon s t := by
  cases h with
  | @death _ _ w x' _ hw hcl hs =>
    -- the queue of `w` may have been forgotten, but `w` ends up closed
    have m := (death_run (c := c) (pick := pick) [] hw hcl hs).mon mon_low
    have hcw := closed_handleDeath (c := c) (pick := pick) (setW s w x') w (by rw [setW_length]; exact hw)
    refine ⟨by rw [m.len, setW_length], fun j h => m.closed j ?_, fun j h => ?_⟩
    · rw [getW_setW s w j x' hw]; split
      · rename_i e; rw [hs.closed, ← e]; exact h
      · exact h
    · have hj : j ≠ w := fun e => by rw [e, hcw] at h; cases h
      rw [m.queue j h, getW_setW_other s w j x' hj]
  | @result _ _ w _ _ _ _ hw =>
    refine .trans ?_ ((result_run [] hw).mon mon_mid)
    exact mon_setW w _ rfl (fun h => h) (fun _ => rfl)
  | @popEmpty _ _ w => exact mon_setW w _ rfl (fun h => h) (fun _ => rfl)
  | @loc _ _ w _ _ hl =>
    refine mon_setW w _ rfl (fun h => hl.closed ▸ h) (fun h => ?_)
    cases hl with
    | eof hcl => cases hcl.symm.trans h
    | stale | work | die => rfl

/-- a queue is *ready* when it is still registered and holds a message or its writer has closed -/
def ready (s : St) (w : Nat) : Bool :=
  decide (w < s.ws.length) && (getW s w).queue && (!(getW s w).chan.isEmpty || (getW s w).eof)

theorem onPoll_ext {s : St} {w : Nat} (he : s.err = none) :
    Ext c pick [] s [] (onPoll c pick s w) ∨ (ready s w = false ∧ onPoll c pick s w = s) := by
  by_cases hw : w < s.ws.length
  case neg => exact .inr ⟨by simp [ready, hw], onPoll_oob c pick s w hw⟩
  fun_cases onPoll c pick s w
  case case1 x hq => exact .inr ⟨by simp_all [ready, x], rfl⟩
  case case2 x hq hch hf => exact .inr ⟨by simp_all [ready, x], rfl⟩
  case case3 x hq hch hf _ hcl =>
    exact .inl (.loc hw (.eof hcl (by simpa using hq) hch (by simpa using hf)))
  case case4 x hq hch hf _ hcl =>
    exact .inl (.death he hw (by simpa using hcl) (.eof (by simpa using hq) hch (by simpa using hf)))
  case case5 x hq rest hch _ hcl => exact .inl (.loc hw (.stale hcl (by simpa using hq) hch))
  case case6 x hq rest hch _ hcl => exact .inl (.death he hw (by simpa using hcl) (.marker (by simpa using hq) hch))
  case case7 x hq i rest hch _ hcl => exact .inl (.loc hw (.stale hcl (by simpa using hq) hch))
  case case8 x hq i rest hch s1 hcl x1 hp =>
    have e : x1 = { x with chan := rest } := getW_setW_same s w _ hw
    exact .inl (.popEmpty hw (by simpa using hcl) (by simpa using hq) hch (by rw [e] at hp; exact hp))
  case case9 x hq i rest hch s1 hcl x1 p ppw' hp s2 s3 =>
    have e : x1 = { x with chan := rest } := getW_setW_same s w _ hw
    have e3 : s3 = { setW s w { x with chan := rest, ppw := ppw' } with
        pending := s.pending - 1, ret := if c.returnResults then s.ret ++ [i] else s.ret } := by
      simp only [s3, s2, s1, e, setW_setW]; rfl
    rw [e3]
    exact .inl (.result hw (by simpa using hcl) (by simpa using hq) hch (by rw [e] at hp; exact hp))

theorem pollAll_run (l : List Nat) (s : St) :
    Run (Ext c pick) [] s [] (l.foldl (fun s w => if s.err.isNone then onPoll c pick s w else s) s) := by
  induction l generalizing s with
  | nil => exact .refl
  | cons w ws ih =>
    simp only [List.foldl_cons]
    split
    · rename_i he
      rcases onPoll_ext (c := c) (pick := pick) (w := w) (by simpa using he) with h | ⟨_, e⟩
      · exact .head h (ih _)
      · rw [e]; exact ih s
    · exact ih s

/-- events that change something -/
def effective (s : St) : Ev → Bool
  | .work w => decide (w < s.ws.length) && (getW s w).alive && !(getW s w).inbox.isEmpty
  | .die w _ => decide (w < s.ws.length) && (getW s w).alive
  | .poll [] => false
  | .poll (w :: _) => running s && s.err.isNone && ready s w

/-- an effective event of the adversary is an event, followed by further ones when it is a batch of queues -/
theorem step_ext (s : St) (ev : Ev) :
    (∃ t, Ext c pick [] s [] t ∧ Run (Ext c pick) [] t [] (step c pick s ev)) ∨
    (effective s ev = false ∧ Run (Ext c pick) [] s [] (step c pick s ev)) := by
  fun_cases step c pick s ev
  case case1 w x ha => exact .inr ⟨by simp_all [effective, x], .refl⟩
  case case2 w x ha hin => exact .inr ⟨by simp_all [effective, x], .refl⟩
  case case3 w x ha i rest hin =>
    -- (a worker that is not there has an empty inbox)
    have hw : w < s.ws.length := Decidable.by_contra fun h => by rw [show x = {} from getW_oob s w h] at hin; cases hin
    exact .inl ⟨_, .loc hw (.work (by simpa using ha) hin), .refl⟩
  case case4 w m x ha => exact .inr ⟨by simp_all [effective, x], .refl⟩
  case case5 w m x ha =>
    by_cases hw : w < s.ws.length
    · exact .inl ⟨_, .loc hw (.die m (by simpa using ha)), .refl⟩
    · rw [setW_oob s w _ hw]; exact .inr ⟨by simp [effective, hw], .refl⟩
  case case6 ws hrun =>
    cases ws with
    | nil => exact .inr ⟨rfl, .refl⟩
    | cons w rest =>
      have he : s.err.isNone = true := by simp only [Bool.and_eq_true] at hrun; exact hrun.2
      simp only [List.foldl_cons, he, if_true, effective]
      rcases onPoll_ext (c := c) (pick := pick) (w := w) (by simpa using he) with h | ⟨hr, e⟩
      · exact .inl ⟨_, h, pollAll_run rest _⟩
      · rw [e]; exact .inr ⟨by simp [hr], pollAll_run rest s⟩
  case case7 ws hrun =>
    refine .inr ⟨?_, .refl⟩
    cases ws with
    | nil => rfl
    | cons w rest => simp only [effective]; simp_all

theorem step_run (s : St) (ev : Ev) : Run (Ext c pick) [] s [] (step c pick s ev) := by
  rcases step_ext (c := c) (pick := pick) s ev with ⟨t, h, r⟩ | ⟨_, r⟩
  · exact .head h r
  · exact r

theorem runEvents_run (evs : List Ev) (s : St) : Run (Ext c pick) [] s [] (runEvents c pick s evs) := by
  induction evs generalizing s with
  | nil => exact .refl
  | cons e es ih => exact (step_run s e).trans (ih _)

end

theorem foldl_step (c : Cfg) (pick : List Nat → Option Nat) (evs : List Ev) (s : St) :
    evs.foldl (step c pick) s = runEvents c pick s evs := by
  induction evs generalizing s with
  | nil => rfl
  | cons e es ih => exact ih _

theorem start_eq (c : Cfg) (pick : List Nat → Option Nat) (n : Nat) (src : List Inp) (pre : List Ev) :
    start c pick n src pre = firstEnqueue c pick (c.extra + 1) (runEvents c pick (initSt n src) pre) := by
  rw [start, foldl_step]

theorem nextRun_eq (c : Cfg) (pick : List Nat → Option Nat) (r : ResetCfg) (s : St) (src : List Inp) (pre : List Ev) :
    nextRun c pick r s src pre = firstEnqueue c pick (c.extra + 1) (runEvents c pick (resetFor r s src) pre) := by
  rw [nextRun, foldl_step]

theorem runEvents_snoc (c : Cfg) (pick : List Nat → Option Nat) (s : St) (l : List Ev) (e : Ev) :
    runEvents c pick s (l ++ [e]) = step c pick (runEvents c pick s l) e := by
  simp only [← foldl_step, List.foldl_append, List.foldl_cons, List.foldl_nil]

end PwVerif.Pool
