import PwVerif.Lemmas.PoolQ
import PwVerif.Lemmas.PoolF
/-!
# C07 — Pool.run yields exactly one result per input under every schedule and death

Model: `PwVerif.Pool` (hand-written, mirrors the closures of `Pool.run`; tied to the code by
`harness/c07.py`, which drives the **real** `Pool.run` with the same adversary scripts).

Quantifiers: any number of workers, any input list, any `worker_extra_pending_inputs`, any choice
function for the idle worker, any pre-run deaths, and **every** sequence of adversary events
(worker answers / dies with or without end marker / the pool reads ready queues in any batches).

Configuration of **all** theorems: `Retrying` = retry on, results returned and **any** user `enqueue_fn` (an
arbitrary refusal function `c.refuse`; an accepting `enqueue_fn` is assumed to enqueue to the worker it was given,
like `worker.enqueue`).
-/
namespace PwVerif.C07
open PwVerif.Pool

/-- **C07 exactly once.** Whenever the run returns normally, its result list is a permutation of the
    inputs: one result for every input, none missing, none duplicated. -/
theorem C07_exact (c : Cfg) (hc : Retrying c) (pick : List Nat → Option Nat) (hp : PickOK pick)
    (n : Nat) (src : List Inp) (pre evs : List Ev) (ret : List Inp)
    (h : outcome (runEvents c pick (start c pick n src pre) evs) = .returned ret) :
    ret.Perm src :=
  perm_of_inv_returned (inv_reach hc hp n src pre evs) h

/-- **C07 no internal error.** No schedule makes the run pop from an empty pending list
    (the `IndexError` of the code before the fix). -/
theorem C07_no_internal_error (c : Cfg) (hc : Retrying c) (pick : List Nat → Option Nat) (hp : PickOK pick)
    (n : Nat) (src : List Inp) (pre evs : List Ev) :
    (runEvents c pick (start c pick n src pre) evs).err ≠ some .popEmpty :=
  (inv_reach hc hp n src pre evs).nopop

/-- Conservation at every moment of every schedule: each input is, with multiplicity, in exactly one of
    the source, the retry list, some worker's pending list, or the results. -/
theorem C07_conservation (c : Cfg) (hc : Retrying c) (pick : List Nat → Option Nat) (hp : PickOK pick)
    (n : Nat) (src : List Inp) (pre evs : List Ev) (i : Inp) :
    let s := runEvents c pick (start c pick n src pre) evs
    src.count i = s.src.count i + s.retries.count i + ppwCount i s + s.ret.count i := by
  have := (inv_reach hc hp n src pre evs).cons i
  simpa [cnt] using this

/-- the pending lists always agree with what the workers hold: for a worker not yet declared dead the
    pool's pending list is exactly (results waiting in its pipe) ++ (inputs it has not processed yet) -/
theorem C07_fifo_agreement (c : Cfg) (hc : Retrying c) (pick : List Nat → Option Nat) (hp : PickOK pick)
    (n : Nat) (src : List Inp) (pre evs : List Ev) :
    ∀ x ∈ (runEvents c pick (start c pick n src pre) evs).ws, x.closed = false →
      x.ppw = resIn x.chan ++ x.inbox ++ x.lost :=
  fun x hx => ((inv_reach hc hp n src pre evs).ws x hx).open_

/-- **C07 the re-dispatch loop always terminates**, whatever the user `enqueue_fn` refuses. In no schedule does
    `handle_death`'s `while self._retries` loop run out of the fuel `(number of workers + 1)^2` (the variant of
    `Lemmas/PoolF.lean`). (`hc` is not needed: the loop terminates under every retry policy.) -/
theorem C07_redispatch_terminates (c : Cfg) (hc : Retrying c) (pick : List Nat → Option Nat) (hp : PickOK pick)
    (n : Nat) (src : List Inp) (pre evs : List Ev) :
    (runEvents c pick (start c pick n src pre) evs).err ≠ some .outOfFuel :=
  fuelOK_runEvents' hp evs _ (fuelOK_start' hp n src pre)

/-- **C07 never an internal error**: the run can only be waiting, return, or raise PoolError. -/
theorem C07_never_internal (c : Cfg) (hc : Retrying c) (pick : List Nat → Option Nat) (hp : PickOK pick)
    (n : Nat) (src : List Inp) (pre evs : List Ev) (e : Err) :
    outcome (runEvents c pick (start c pick n src pre) evs) ≠ .internal e := by
  intro h
  cases e with
  | popEmpty => exact C07_no_internal_error c hc pick hp n src pre evs (outcome_spec h)
  | outOfFuel => exact C07_redispatch_terminates c hc pick hp n src pre evs (outcome_spec h)

/-- **C07 progress.** From *any* state: every adversary event (a worker answering, a worker dying, the pool
    reading a batch of queues) leaves the lexicographic measure (workers not yet closed, potential) unchanged
    or smaller, and every *effective* event - a live worker with an input answers, a live worker dies, the
    pool reads a batch whose first queue is ready while the loop is running - makes it strictly smaller.
    (`hc` is not needed: `step_measure` holds for every configuration.) -/
theorem C07_progress (c : Cfg) (hc : Retrying c) (pick : List Nat → Option Nat) (hp : PickOK pick) (s : St) (ev : Ev) :
    Dec s (step c pick s ev) ∧ (effective s ev = true → SDec s (step c pick s ev)) :=
  step_measure hp s ev

/-- **C07 terminates.** No schedule - from any state, in particular from the start of any run - contains
    infinitely many effective events: provided every worker eventually answers or dies and the pool reads
    what is ready, `Pool.run` comes to an end. (`evs i` is the i-th event of an infinite schedule; `hc` is not needed.) -/
theorem C07_terminates (c : Cfg) (hc : Retrying c) (pick : List Nat → Option Nat) (hp : PickOK pick) (s0 : St)
    (evs : Nat → Ev) :
    ¬ ∀ i, effective (runEvents c pick s0 ((List.range i).map evs)) (evs i) = true := by
  intro h
  apply no_infinite_sdec (fun i => runEvents c pick s0 ((List.range i).map evs))
  intro i
  have := (step_measure (c := c) hp (runEvents c pick s0 ((List.range i).map evs)) (evs i)).2 (h i)
  simpa [List.range_succ, runEvents_snoc] using this

/-- **C07 never blocks for ever.** In every reachable state in which the event loop is waiting (something is
    pending and a worker is usable) progress is possible without anybody dying: some live worker holds an input
    it has not answered yet, or some registered result queue holds a message or has reached EOF - so the next
    `mp.connection.wait` returns. Together with `C07_terminates`: every fair schedule ends, by a normal return
    or by `PoolError` (`C07_never_internal`). -/
theorem C07_no_deadlock (c : Cfg) (hc : Retrying c) (pick : List Nat → Option Nat) (hp : PickOK pick)
    (n : Nat) (src : List Inp) (pre evs : List Ev)
    (hrun : outcome (runEvents c pick (start c pick n src pre) evs) = .waiting) :
    ∃ w, effective (runEvents c pick (start c pick n src pre) evs) (.work w) = true ∨
         effective (runEvents c pick (start c pick n src pre) evs) (.poll [w]) = true := by
  obtain ⟨herr, hr⟩ := outcome_spec hrun
  exact progress_possible (inv_reach hc hp n src pre evs)
    (qinv_runEvents evs _ (qinv_start c pick n src pre)) hr herr

/-- non-vacuity: in the start state of a run the first worker answering is an effective event -/
example : effective (start {} pickFirst 2 [1, 2, 3]) (.work 0) = true := by decide +kernel

theorem pickFirst_ok : PickOK pickFirst := by
  intro l w h
  cases l with
  | nil => simp [pickFirst] at h
  | cons a as => simp [pickFirst] at h; subst h; simp

/-- the schedule that made `Pool.run` spin for ever before the repair (W0 dies holding input 1, the idle W1 refuses
    it): the re-dispatch loop now gives up on W1 and the run ends with `PoolError` -/
theorem C07_refusal_witness_after_fix :
    outcome (runEvents { refuse := fun w i => w == 1 && i == 1 } pickFirst
      (start { refuse := fun w i => w == 1 && i == 1 } pickFirst 2 [1]) [.die 0 true, .poll [0]])
    = .poolError [] := by decide +kernel

/-- non-vacuity of the `enqueue_fn` configuration: worker 1 refuses input 2, which is kept on the retry list
    and later handed to worker 0; every input is returned once -/
example : outcome (runEvents { refuse := fun w i => w == 1 && i == 2 } pickFirst
      (start { refuse := fun w i => w == 1 && i == 2 } pickFirst 2 [1, 2, 3])
      [.work 0, .poll [0], .work 0, .poll [0], .work 0, .poll [0]]) = .returned [1, 2, 3] := by
  decide +kernel

/-- non-vacuity: a run with a death that still returns everything -/
example : outcome (runEvents {} pickFirst (start {} pickFirst 2 [1, 2, 3])
    [.work 0, .die 1 false, .poll [1], .poll [0], .work 0, .poll [0], .work 0, .poll [0]]) = .returned [1, 2, 3] := by
  decide +kernel

end PwVerif.C07
