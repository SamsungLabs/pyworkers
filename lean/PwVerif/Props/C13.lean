import PwVerif.Lemmas.Mro
/-!
# C13 — remote_pickle is invisible to code that does not opt in

* `C13_mro_spec`: for every MRO (any length, any mixture) the metaclass check computes the
  declarative reading: `Warning` iff a plain `__getstate__` shadows a remote-aware one
  (before any class that defines `__reduce__`/`__reduce_ex__`), otherwise opt-in iff no
  class defines a reduce method and some class has a remote-aware `__getstate__`.
* `C13_nonoptin_same`, `C13_remote_false`, `C13_std_unaffected`: the reducer chosen by a
  `RemotePickler` equals standard pickle's for every non-opt-in object (both flags); for
  `remote=False` an opt-in object is reduced through the re-implementation of
  `object.__reduce_ex__` with `__getstate__(remote=False)`; standard pickling never passes
  the flag. The quantifier is the complete feature table `Obj`; the first two follow from `remoteChoice_eq`
  (`Lemmas/Mro.lean`), which says where a `RemotePickler`'s choice differs from standard pickle's.
-/
namespace PwVerif.C13
open PwVerif.Mro

theorem C13_mro_spec (mro : List ClassInfo) : checkType mro = spec mro := by
  simp [checkType, checkLoop_spec, specFrom, spec]

/-- A consistent chain is never rejected, an inconsistent one always is (unless it is cut
    off by a reduce-defining class first). -/
theorem C13_warning_iff (mro : List ClassInfo) :
    checkType mro = .warning ↔ inconsistent (prefixOf mro) = true := by
  rw [C13_mro_spec, spec]
  cases inconsistent (prefixOf mro) <;> cases hasReduce mro <;> simp

theorem C13_std_unaffected : ∀ (o : Obj) (f : Bool), stdChoice o ≠ .remoteReduce f := by
  intro o f
  unfold stdChoice
  cases o.builtin <;> cases o.inCopyreg <;> simp

theorem C13_nonoptin_same :
    ∀ (r : Bool) (o : Obj), coherent o = true → o.optIn = false → remoteChoice r o = stdChoice o := by
  intro r o hc hn
  simp [remoteChoice_eq r o hc, hn]

theorem C13_remote_false :
    ∀ (o : Obj), coherent o = true →
      remoteChoice false o = stdChoice o ∨ remoteChoice false o = .remoteReduce false := by
  intro o hc
  rw [remoteChoice_eq false o hc]
  split
  · exact .inr rfl
  · exact .inl rfl

/-- Only opt-in objects ever get `__getstate__(remote=True)`. -/
theorem C13_flag_only_optin :
    ∀ (r : Bool) (o : Obj), coherent o = true → remoteChoice r o = .remoteReduce true → o.optIn = true ∧ r = true := by
  intro r o hc h
  rw [remoteChoice_eq r o hc] at h
  split at h
  · next hcond => exact ⟨(Bool.and_eq_true_iff.mp hcond).1, Choice.remoteReduce.inj h⟩
  · exact absurd h (C13_std_unaffected o true)

/-- Every opt-in, non-copyreg object gets the remote reducer when `remote=True`. -/
theorem C13_optin_routed :
    ∀ (o : Obj), coherent o = true → o.optIn = true → o.inCopyreg = false →
      remoteChoice true o = .remoteReduce true := by
  intro o hc ho hn
  simp [remoteChoice_eq true o hc, ho, hn]

/-- Non-vacuity / examples: the three chains used by the repository's own tests. -/
example : checkType [⟨false, .remote⟩, ⟨false, .none⟩] = .ok true := by decide
example : checkType [⟨false, .plain⟩, ⟨false, .remote⟩] = .warning := by decide
example : checkType [⟨false, .kwargs⟩, ⟨false, .remote⟩] = .ok true := by decide
example : checkType [⟨false, .remote⟩, ⟨true, .none⟩, ⟨false, .plain⟩] = .ok false := by decide

end PwVerif.C13
