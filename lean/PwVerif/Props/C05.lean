import PwVerif.Lemmas.Stream
/-!
# C05 — persistent workers process each enqueue exactly once, in order, with merged arguments
-/
namespace PwVerif.C05
open PwVerif.Stream

/-- **C05 stream.** For any defaults, any target and any list of accepted enqueues: the k-th value
    delivered is the target applied to the defaults overlaid with the k-th enqueue, in order,
    each exactly once; counters run 1..n; `result` (the final counter) is the number of enqueues. -/
theorem C05_stream (f : Target) (d : List Nat) (kd : List (Nat × Nat)) (ins : List Enq) :
    items (childRun f d kd ins none).msgs = ins.map (value f d kd) ∧
    counters (childRun f d kd ins none).msgs = (List.range ins.length).map (· + 1) ∧
    (childRun f d kd ins none).counter = ins.length :=
  childRun_none f d kd ins

/-- the stream ends exactly once: one end marker, as the last message -/
theorem C05_ends_once (f : Target) (d : List Nat) (kd : List (Nat × Nat)) (ins : List Enq) (c : Nat) :
    ∃ pre, (childLoop f d kd ins c none).msgs = pre ++ [.endMarker (c + ins.length)] ∧
      ∀ m ∈ pre, ∃ k v, m = .item k v :=
  ⟨_, by rw [childLoop_none], sent_items f d kd c ins⟩

/-- fewer extras than defaults: extras replace the leading defaults, the rest stay -/
theorem merge_fewer (d e : List Nat) (h : e.length ≤ d.length) :
    (merge d e).length = d.length ∧ (merge d e).take e.length = e ∧ (merge d e).drop e.length = d.drop e.length := by
  unfold merge
  refine ⟨by simp; omega, by simp, by simp⟩

/-- as many or more extras than defaults: the call sees exactly the extras -/
theorem merge_more (d e : List Nat) (h : d.length ≤ e.length) : merge d e = e := by
  unfold merge
  rw [List.drop_of_length_le h, List.append_nil]

theorem merge_nil (d : List Nat) : merge d [] = d := by simp [merge]

/-- every call starts from the pristine defaults: the value of the k-th call does not depend on the
    other enqueues (the loop deep-copies the defaults each iteration) -/
theorem C05_pristine (f : Target) (d : List Nat) (kd : List (Nat × Nat)) (pre post : List Enq) (e : Enq) :
    (items (childRun f d kd (pre ++ e :: post) none).msgs)[pre.length]? = some (value f d kd e) := by
  rw [(C05_stream f d kd _).1]
  simp

/-- keyword merge: an enqueued key overrides the default, other defaults stay -/
theorem kwmerge_lookup (d e : List (Nat × Nat)) (k : Nat) :
    ((kwmerge d e).find? (·.1 == k)).map (·.2) =
      match (e.find? (·.1 == k)) with
      | some p => some p.2
      | none => (d.find? (·.1 == k)).map (·.2) := by
  unfold kwmerge
  rw [List.find?_append]
  cases he : e.find? (·.1 == k) with
  | some p => simp
  | none =>
    -- no extra has key `k`, so the filter keeps every default with key `k`
    rw [Option.none_or, List.find?_filter]
    congr 2
    funext x
    by_cases hx : x.1 = k
    · subst hx
      simpa using List.find?_eq_none.mp he
    · simp [hx]

example : merge [1, 2, 3] [9] = [9, 2, 3] := by decide
example : merge [1, 2] [7, 8, 9] = [7, 8, 9] := by decide
example : items (childRun (fun a _ => a.sum) [1, 2] [] [⟨[5], []⟩, ⟨[], []⟩] none).msgs = [7, 3] := by decide

end PwVerif.C05
