import PwVerif.Lemmas.Shutdown
import PwVerif.Gen.ShutdownPaths
/-!
# C12 — stopping the server reaps its children and every parent finds out

`Gen.finallyPath` / `Gen.sigtermPath` are regenerated from /repo: for the `finally` block of
`RemoteServer.run` (reached by `terminate()`) and for the SIGTERM handler, whether every child
(and context helper) is visited, whether a failure on one child cannot cut the iteration short,
whether the stop is forced, whether survivors get SIGTERM.

* `C12_reaped`: on a path with those properties, **for every registry** (any number of children
  in any mixture of states) every child is dead afterwards and every parent-side worker is dead
  with a definite outcome; `C12_reaped_finally` / `C12_reaped_sigterm` instantiate it with the
  regenerated paths.
* `C12_parent_learns`: children that were running or idle report `WorkerTerminatedError`
  (cooperative / idle persistent), a child that had to be killed reports an error without it,
  a child that had already finished keeps its own outcome.

Signal delivery, process reaping and the orphaned context helper noticing EOF are OS behaviour:
measured by `harness/c12.py` (no descendant of the server left; every parent-side worker dead).

`good` (what the theorems ask of a shutdown path): `Lemmas/Shutdown.lean`.
-/
namespace PwVerif.C12
open PwVerif.Shutdown PwVerif.Gen

theorem C12_reaped (p : Path) (hp : good p = true) (cs : List Child) :
    (shutdown p cs).length = cs.length ∧
    ∀ r ∈ shutdown p cs, r.1 = true ∧ r.2.dead = true ∧ r.2.hasError ≠ none := by
  rw [shutdown_good hp]
  refine ⟨List.length_map _, fun r hr => ?_⟩
  obtain ⟨c, _, rfl⟩ := List.mem_map.mp hr
  cases c with
  | swallowing => rw [stop_swallowing hp]; exact ⟨rfl, rfl, nofun⟩
  | _ => exact ⟨rfl, rfl, nofun⟩

theorem C12_reaped_finally (cs : List Child) :
    ∀ r ∈ shutdown finallyPath cs, r.1 = true ∧ r.2.dead = true ∧ r.2.hasError ≠ none :=
  (C12_reaped finallyPath (by decide) cs).2

theorem C12_reaped_sigterm (cs : List Child) :
    ∀ r ∈ shutdown sigtermPath cs, r.1 = true ∧ r.2.dead = true ∧ r.2.hasError ≠ none :=
  (C12_reaped sigtermPath (by decide) cs).2

theorem C12_contexts_visited : finallyPath.iteratesContexts = true ∧ sigtermReraisesDefault = true := by decide

theorem C12_parent_learns (p : Path) (hp : good p = true) :
    (stop p .cooperative).2 = ⟨true, some true, true⟩ ∧
    (stop p .idlePersistent).2 = ⟨true, some true, true⟩ ∧
    (stop p .swallowing).2 = ⟨true, some true, false⟩ ∧
    (stop p .finished).2 = ⟨true, some false, false⟩ :=
  ⟨rfl, rfl, by rw [stop_swallowing hp], rfl⟩

/-- a path that does not guard each child (one failing terminate aborts the loop) reaps nobody in
    the worst case - why `perChildGuarded` is part of `good` -/
example : shutdown { finallyPath with perChildGuarded := false } [.cooperative, .swallowing] = [] := by decide
example : (shutdown finallyPath [.cooperative, .swallowing, .idlePersistent, .finished]).length = 4 := by decide

end PwVerif.C12
