import PwVerif.Lemmas.Framing
/-!
# C10 — message framing survives any segmentation and detects any truncation

Model: `PwVerif.Framing` (hand-written; tied to `pyworkers/remote.py` `send_msg` /
`recv_msg` by `harness/c10.py`). Quantifiers: every message list, every body
(< 2^32 bytes, the limit of the `!I` header), every cut list (i.e. every
segmentation of the stream into `recv` results, down to one byte per read), every
truncation offset.
-/
namespace PwVerif.C10
open PwVerif.Framing

/-- **C10 truncation.** If the peer dies anywhere inside message `m` (after any number of
    complete messages), the receiver gets the complete ones and then `closed` —
    it never spins, blocks on fuel, or returns a partial message. -/
theorem C10_truncation (msgs : List (List Byte)) (m : List Byte) (k : Nat) (cuts : List Nat)
    (h : ∀ x ∈ msgs, x.length < 4294967296) (hm : m.length < 4294967296)
    (hk : k < (encode m).length) :
    recvN (msgs.length + 1) ⟨encodeAll msgs ++ (encode m).take k, cuts⟩
      = msgs.map .msg ++ [.closed] := by
  obtain ⟨c', hc⟩ := recvN_encodeAll msgs ((encode m).take k) cuts 1 h
  obtain ⟨s', hs⟩ := recvMsg_truncated m k c' hm hk
  rw [hc, recvN_succ_closed 0 _ _ hs]

/-- **C10 round trip.** Any sequence of messages, any segmentation: the receiver reads
    exactly the same sequence and then sees a clean close at the boundary. -/
theorem C10_roundtrip (msgs : List (List Byte)) (cuts : List Nat)
    (h : ∀ m ∈ msgs, m.length < 4294967296) :
    recvN (msgs.length + 1) ⟨encodeAll msgs, cuts⟩ = msgs.map .msg ++ [.closed] := by
  -- the peer "dies" before the first byte of a further message
  simpa using C10_truncation msgs [] 0 cuts h (by simp) (by simp [encode, be32_length])

/-- **C10 never spins**: with the fuel the code's loop structure provides, the `spin`
    outcome is unreachable on *any* stream (well-formed or garbage) and any cuts. -/
theorem C10_no_spin (s : Sock) : (recvMsg s).1 ≠ .spin := by
  fun_cases recvMsg s
  -- the two branches that hand on a `spin` of an exact read
  case case4 | case6 =>
    exact absurd (congrArg Prod.fst ‹_ = (Exact.spin, _)›) (recvExact_fuel _ _ _ _ (Nat.le_refl _))
  all_goals nofun

/-- Non-vacuity: a concrete two-message stream read one byte at a time. -/
example : recvN 3 ⟨encodeAll [[1, 2, 3], []], [0, 0, 0, 0, 0, 0, 0, 0, 0, 0, 0, 0]⟩
    = [.msg [1, 2, 3], .msg [], .closed] := by decide +kernel

/-- Non-vacuity: truncation inside the header (2 of 4 bytes) and inside the body. -/
example : recvN 2 ⟨encodeAll [[7]] ++ (encode [1, 2, 3]).take 2, [0, 1]⟩ = [.msg [7], .closed] := by
  decide +kernel
example : recvN 1 ⟨(encode [1, 2, 3]).take 6, []⟩ = [.closed] := by decide +kernel

/-- `sendall` over a transport that writes short puts exactly the data on the wire, whatever the short writes -/
theorem sendAll_all : ∀ (fuel : Nat) (data : List Byte) (caps : List Nat) (wire : List Byte), data.length ≤ fuel →
    (sendAll fuel data caps wire).1 = wire ++ data := by
  intro fuel data caps wire h
  fun_induction sendAll fuel data caps wire with
  | case1 => simp
  | case2 => simp at h
  | case3 fuel b bs caps wire k ih =>
    -- one `send` accepts some non-zero number `k` of bytes, whatever the caps
    have hk : 1 ≤ k := by cases caps <;> simp [k]
    rw [ih (by simp only [List.length_drop, List.length_cons] at h ⊢; omega), List.append_assoc,
      List.take_append_drop]

theorem sendMsgs_wire (msgs : List (List Byte)) (caps : List Nat) (wire : List Byte) :
    sendMsgs msgs caps wire = wire ++ encodeAll msgs := by
  induction msgs generalizing caps wire with
  | nil => simp [sendMsgs, encodeAll]
  | cons m ms ih =>
    simp only [sendMsgs, encodeAll]
    rw [ih, sendAll_all _ _ _ _ (Nat.le_refl _), List.append_assoc]

/-- **C10 end to end.** Whatever short writes the sender's transport makes (`caps`) and however the receiver's
    transport segments the stream (`cuts`), the receiver reads back exactly the messages that were sent, then sees
    the connection closed. -/
theorem C10_end_to_end (msgs : List (List Byte)) (caps cuts : List Nat)
    (hm : ∀ m ∈ msgs, m.length < 4294967296) :
    recvN (msgs.length + 1) ⟨sendMsgs msgs caps [], cuts⟩ = msgs.map Recv.msg ++ [Recv.closed] := by
  rw [sendMsgs_wire]
  simpa using C10_roundtrip msgs cuts hm

example : sendMsgs [[1, 2, 3], []] [0, 0, 1] [] = [0, 0, 0, 3, 1, 2, 3, 0, 0, 0, 0] := by decide

end PwVerif.C10
