import PwVerif.Lemmas.PoolF
/-!
# C08 — Pool failure reports are sound

Same model as C07. `C08_partial_genuine` / `C08_poolerror_partial` hold for `Retrying` (retry on, results
returned, **any** user `enqueue_fn`); `C08_sound` / `C08_survivor` for `Plain` (no `enqueue_fn`: a function
that refuses an input for every live worker ends the run with PoolError although nobody died - outside the
property's premise "every worker has died or been closed" only in the sense that the user asked for it).
The retry-off clause is Props/C08NoRetry.lean.
-/
namespace PwVerif.C08
open PwVerif.Pool

/-- **partial results are genuine.** Whatever the outcome, the results collected so far contain every
    input at most as often as it was given - in particular `PoolError.partial_results`. -/
theorem C08_partial_genuine (c : Cfg) (hc : Retrying c) (pick : List Nat → Option Nat) (hp : PickOK pick)
    (n : Nat) (src : List Inp) (pre evs : List Ev) (i : Inp) :
    (runEvents c pick (start c pick n src pre) evs).ret.count i ≤ src.count i := by
  have := (inv_reach hc hp n src pre evs).cons i
  simp only [cnt] at this
  omega

theorem C08_poolerror_partial (c : Cfg) (hc : Retrying c) (pick : List Nat → Option Nat) (hp : PickOK pick)
    (n : Nat) (src : List Inp) (pre evs : List Ev) (part : List Inp)
    (h : outcome (runEvents c pick (start c pick n src pre) evs) = .poolError part) :
    ∀ i, part.count i ≤ src.count i := by
  obtain ⟨_, _, _, rfl⟩ := outcome_spec h
  exact C08_partial_genuine c hc pick hp n src pre evs

/-- when the run stops although inputs are left (PoolError), nothing is pending any more: every worker
    that was handed work has answered or has been declared dead -/
theorem C08_stops_only_when_idle_or_all_closed (s : St) (h : running s = false) :
    s.pending = 0 ∨ ∀ x ∈ s.ws, x.closed = true := by
  simp only [running, Bool.and_eq_false_iff, List.any_eq_false] at h
  rcases h with h | h
  · left; simpa using h
  · right; intro x hx; simpa using h x hx

/-- **C08 soundness of PoolError.** Whenever the run ends with `PoolError`, every worker of the pool has been
    closed (declared dead): with one usable worker left the run cannot fail. Invariant `K` (Lemmas/PoolK.lean):
    an idle usable worker exists only when the retry list is empty and the input has been found depleted. -/
theorem C08_sound (c : Cfg) (hc : Plain c) (pick : List Nat → Option Nat) (hp : PickOK pick) (ht : PickTotal pick)
    (n : Nat) (src : List Inp) (pre evs : List Ev) (part : List Inp)
    (h : outcome (runEvents c pick (start c pick n src pre) evs) = .poolError part) :
    ∀ x ∈ (runEvents c pick (start c pick n src pre) evs).ws, x.closed = true :=
  all_closed_of_poolError (inv_reach hc.toRetrying hp n src pre evs).pending
    (K_runEvents hc.noFn (redispatches_total hc.noFn hp ht) evs _ (K_start hc.noFn n src pre)) h

/-- ... equivalently: while one worker has not been closed the run completes normally -/
theorem C08_survivor (c : Cfg) (hc : Plain c) (pick : List Nat → Option Nat) (hp : PickOK pick) (ht : PickTotal pick)
    (n : Nat) (src : List Inp) (pre evs : List Ev)
    (hx : ∃ x ∈ (runEvents c pick (start c pick n src pre) evs).ws, x.closed = false) (part : List Inp) :
    outcome (runEvents c pick (start c pick n src pre) evs) ≠ .poolError part := by
  intro h
  obtain ⟨x, hm, hcl⟩ := hx
  have := C08_sound c hc pick hp ht n src pre evs part h x hm
  rw [hcl] at this; cases this

example : outcome (runEvents {} pickFirst (start {} pickFirst 1 [1, 2]) [.die 0 true, .poll [0]]) = .poolError [] := by
  decide +kernel

end PwVerif.C08
