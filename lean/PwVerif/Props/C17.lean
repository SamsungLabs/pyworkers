import PwVerif.Lemmas.Restart
import PwVerif.Gen.Tables
/-!
# C17 — restart() always yields a fresh, equivalent, live worker
-/
namespace PwVerif.C17
open PwVerif.Restart PwVerif.Gen

/-- **fresh and equivalent.** From any state, a restart that does not raise gives a live, open worker
    with the same constructor data, the new identity, counter 0 and an empty stream, and the last
    synchronised user state. -/
theorem C17_fresh (w w' : W) (fresh : Nat) (h : restart w fresh = .ok w') :
    w'.alive = true ∧ w'.closed = false ∧ w'.counter = 0 ∧ w'.stream = [] ∧ w'.ctor = w.ctor ∧
    w'.ident = fresh ∧ w'.userState = w.userState := by
  obtain rfl := restart_ok h
  simp

/-- **raises if stuck.** If the old incarnation cannot be stopped, restart raises and nothing changed:
    in particular no second child was started. -/
theorem C17_raises_if_stuck (w : W) (fresh : Nat) (ha : w.alive = true) (hs : w.stoppable = false) :
    restart w fresh = .raised w := by
  simp [restart, ha, hs]

theorem C17_ok_otherwise (w : W) (fresh : Nat) (h : w.alive = false ∨ w.stoppable = true) :
    ∃ w', restart w fresh = .ok w' := by
  unfold restart
  rcases h with h | h <;> simp [h]

/-- **no old results.** Whatever the old stream held, after a restart every result ever read was
    produced by the new incarnation, and the counter counts exactly the new enqueues. -/
theorem C17_no_old_results (w w' : W) (fresh : Nat) (vs : List Nat) (h : restart w fresh = .ok w') :
    (∀ r ∈ (works w' vs).stream, r.1 = fresh) ∧ (works w' vs).counter = vs.length ∧
    (works w' vs).stream.map (·.2) = vs := by
  obtain rfl := restart_ok h
  rw [works_open _ vs rfl rfl]
  simp [Function.comp_def]

/-- a chain of restarts, each of which must succeed -/
def restarts : W → List Nat → Option W
  | w, [] => some w
  | w, i :: is => match restart w i with
    | .ok y => restarts y is
    | .raised _ => none

/-- iterated restarts: the constructor data survives any number of them -/
theorem C17_chain (w w' : W) (ids : List Nat) (h : restarts w ids = some w') : w'.ctor = w.ctor := by
  fun_induction restarts w ids with
  | case1 => cases h; rfl
  | case2 w i is y hr ih => rw [ih h, restart_ok hr]
  | case3 => cases h

/-- the constructor arguments `restart` re-uses (regenerated from /repo): target positionally, and
    args / kwargs / name / userid / init_state by keyword - each taken from the attribute that holds it;
    the remote kind adds host and context. -/
theorem C17_restart_args :
    restartPositional = ["self._target"] ∧
    ("args", "self._args") ∈ restartKeys ∧ ("kwargs", "self._kwargs") ∈ restartKeys ∧
    ("name", "self._name") ∈ restartKeys ∧ ("userid", "self._userid") ∈ restartKeys ∧
    ("init_state", "self._user_state") ∈ restartKeys ∧ ("run", "self._do_run") ∈ restartKeys ∧
    ("host", "self._target_host") ∈ remoteRestartKeys ∧ ("context", "self._context") ∈ remoteRestartKeys := by
  decide

example : restart ⟨⟨1, [2], 3, 4, 5, 6⟩, 7, true, true, 9, [(7, 1)], 0, false⟩ 8 = .raised ⟨⟨1, [2], 3, 4, 5, 6⟩, 7, true, true, 9, [(7, 1)], 0, false⟩ := by decide

end PwVerif.C17
