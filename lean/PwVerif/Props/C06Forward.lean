import PwVerif.Lemmas.Forward
import PwVerif.Gen.Forward
/-!
# C06, continued — the parent-side forwarding thread of the remote kind ends the stream exactly once

`PersistentRemoteWorker._fetch_results` copies what the backend writes on the data socket to the
worker's local results pipe. Whatever the backend managed to write before the connection closed -
`j` results, then possibly its own end-of-stream message (whose counter is `j`, or `j+1` when it was
stopped between counting and sending a result), then possibly the final result (its own, or the one the
server fabricates after it had to kill the child) - the local pipe receives exactly those `j` results
followed by **exactly one** end-of-stream message, and the thread does not die on an assertion.

`Gen.fwdCfg` is regenerated from /repo on every run (T-fwd); the theorem is proved for every configuration
satisfying the decidable predicate `Good` and instantiated at the regenerated one.
-/
namespace PwVerif.C06
open PwVerif.Forward

theorem C06_forward_once (cfg : Cfg) (hg : Good cfg = true) (j : Nat) (e : Option Nat) (f : Bool) (hwf : WF j e) :
    (fwd cfg (stream j e f) {}).crashed = false ∧
    ∃ c, (fwd cfg (stream j e f) {}).out = outItemsFrom 0 j ++ [.endM c] := by
  simp only [Good, Bool.and_eq_true, bne_iff_ne, ne_eq] at hg
  obtain ⟨⟨hal, hfl⟩, hne⟩ := hg
  unfold stream
  rw [List.append_assoc, fwd_items cfg j 0 _ {} rfl]
  cases e with
  | none =>
    rw [List.nil_append, fwd_exit cfg hal]
    exact ⟨rfl, 0 + j, by simp [putMarker]⟩
  | some c =>
    have hok : endOk cfg.endAssert c (0 + j) = true := by
      simp only [WF] at hwf
      cases hea : cfg.endAssert with
      | eqCounter => exact absurd hea hne
      | eqOrNext => simp only [endOk, Bool.or_eq_true, beq_iff_eq]; omega
      | none => rfl
    rw [List.singleton_append, fwd_endM cfg hfl c _ _ hok, fwd_exit cfg hal]
    exact ⟨rfl, c, by simp⟩

theorem C06_forward_generated_good : Good Gen.fwdCfg = true := by decide

theorem C06_forward_once_generated (j : Nat) (e : Option Nat) (f : Bool) (hwf : WF j e) :
    (fwd Gen.fwdCfg (stream j e f) {}).crashed = false ∧
    ∃ c, (fwd Gen.fwdCfg (stream j e f) {}).out = outItemsFrom 0 j ++ [.endM c] :=
  C06_forward_once Gen.fwdCfg C06_forward_generated_good j e f hwf

/-- the defect repaired by the `fix:` commit 4182d3d, kept as a witness: without the marker after the loop a
    final result that comes without the child's own end message (the server killed the child and reports on
    its behalf) leaves the stream open - a consumer blocked on a queue waits for ever -/
theorem C06_forward_counterexample_before_fix :
    (fwd { Gen.fwdCfg with afterLoopPutsMarker := false } (stream 2 none true) {}).out = [.item 1, .item 2] := by
  decide

/-- asserting before forwarding with the strict counter check (seeded change C06-B) kills the thread before
    the end message is forwarded when the child stopped between counting and sending -/
theorem C06_forward_counterexample_strict :
    (fwd { Gen.fwdCfg with endPutBeforeAssert := false, endAssert := .eqCounter } (stream 2 (some 3) true) {}).crashed = true := by
  decide

example : WF 2 (some 3) ∧ stream 2 (some 3) true = [.item 1, .item 2, .endM 3, .final] := by
  constructor
  · simp [WF]
  · decide

end PwVerif.C06
