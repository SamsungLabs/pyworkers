import PwVerif.Lemmas.Deferred
/-!
# C01, continued — the remaining kind of asynchronous event: a terminate request that the child's control
thread has received and delivers later (`Async.deferred`, see `Props/C03Deferred.lean`). Process and remote
kinds (a thread worker has no control thread). Every target × every reachable arrival point × every delay.
-/
namespace PwVerif.C01
open PwVerif.Py PwVerif.Lifecycle PwVerif.Gen PwVerif.Deferred

def shapeDeferred (prog : List Stmt) (start : Nat) (kd : Kind) : Prop :=
  ∀ t : Target, deferredAll prog { target := t } [] start (fun _ st => shape t (observe kd st)) = true

theorem C01_shape_deferred_process : shapeDeferred processRun processRunStart .process :=
  fun t => table_shape (process_table t)

theorem C01_shape_deferred_remote : shapeDeferred remoteRun remoteRunStart .remote :=
  fun t => table_shape (remote_table t)

end PwVerif.C01
