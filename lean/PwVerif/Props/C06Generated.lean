import PwVerif.Lemmas.LoopDisturbed
/-!
# C06 on the regenerated programs: any number of items, any landing point of the stop

`C06_generated_*` (`Props/C06.lean`) evaluate the regenerated child-side programs of the three persistent kinds for
two enqueued items and every landing point (finite tables decided by the kernel). Here the prefix clause of C06 is
proved about the **same regenerated programs** (`Gen/RunLoops.lean`, translated from `/repo` on every run) for
**every** number `n` of enqueued items and **every** number `K` of line events after which the worker is stopped
- by `terminate()` (the exception raised in the working thread, directly or through the child's control thread) or by
a kill:

  the messages on the results pipe are result messages with counters `1..j` for some `j ≤ n`, in order, followed by
  nothing or by exactly one end marker (`Py.StreamShape`) - a reader never sees a result twice, out of order, with a
  gap, or anything after the end marker.

All are `Py.Around.shape` / `Py.Around.inLoop_tail` (`Lemmas/PyAround.lean`) at `Py.PKind.around`
(`Lemmas/LoopDisturbed.lean`); how: DESIGN 0.6. No generated line number is quoted: renumbering the source does not touch
the proofs; adding a statement to the run loop changes the pass lengths, which are recomputed (`eval_nat%`).

`C06_generated_unbounded_ends_*`: the "always ends" clause for a graceful stop landing anywhere inside the loop.
-/
namespace PwVerif.C06
open PwVerif.Py PwVerif.Gen PwVerif.LoopK

/-- the environment: the target returns, is not `None`, does not assign `user_state` -/
def plainEnv : Env := {}

/-- the run of a regenerated program on `n` items and the release marker, stopped by `a` after `K` line events -/
def stoppedRun (prog : List Stmt) (F n K : Nat) (a : Async) : St × Out :=
  execBlock plainEnv F { inputs := List.replicate n .item ++ [.release], left := some K, async := a } prog

/-- **C06 prefix, regenerated `PersistentThreadWorker` program, any `n`, any `K`**; stops: `terminate()` (the exception
    set in the working thread) or a kill -/
theorem C06_generated_unbounded_thread (a : Async) (ha : a = .raiseWte false ∨ a = .kill) (n K : Nat) :
    ∃ F0, ∀ F, F0 ≤ F → StreamShape n (stoppedRun pthreadRun F n K a) :=
  (PKind.around .thread).shape (by simpa [PKind.cov, PKind.needCtrl] using ha) n K

/-- **C06 prefix, regenerated `PersistentProcessWorker` program, any `n`, any `K`**; stops: `terminate()` delivered by
    SIGTERM (the child's control thread raises) or directly, or a kill -/
theorem C06_generated_unbounded_process (a : Async) (ha : a = .raiseWte false ∨ a = .kill ∨ a = .raiseWte true) (n K : Nat) :
    ∃ F0, ∀ F, F0 ≤ F → StreamShape n (stoppedRun pprocessRun F n K a) :=
  (PKind.around .process).shape (by simpa [PKind.cov, PKind.needCtrl] using ha) n K

/-- **C06 prefix, regenerated `PersistentRemoteWorker` backend, any `n`, any `K` up to the end of the loop** (`hK` is not
    needed: `Py.Around.shape` holds for every `K`) -/
theorem C06_generated_unbounded_remote_partial (a : Async) (ha : a = .raiseWte false ∨ a = .kill ∨ a = .raiseWte true) (n K : Nat)
    (hK : K < premoteP + loopLen n premoteL premoteLr) :
    ∃ F0, ∀ F, F0 ≤ F → StreamShape n (stoppedRun premoteRun F n K a) :=
  (PKind.around .remote).shape (by simpa [PKind.cov, PKind.needCtrl] using ha) n K

/-- **C06 "always ends", regenerated programs, any number of items: a graceful stop that lands inside the loop** - in any
    of the `n + 1` passes, at any line of it - leaves the stream with the first `j ≤ n` results followed by exactly one end
    marker. (The region grows with `n`; landing points before and after the loop are the two-item tables
    `C06_graceful_ends_*`, which also show where the clause fails: inside the clean-up itself.) -/
theorem C06_generated_unbounded_ends_thread (n K : Nat) (h1 : pthreadP ≤ K) (h2 : K < pthreadP + loopLen n pthreadL pthreadLr) :
    ∃ F0, ∀ F, F0 ≤ F → StreamEnds n (stoppedRun pthreadRun F n K (.raiseWte false)) := by
  obtain ⟨m, rfl⟩ : ∃ m, K = pthreadP + m := ⟨K - pthreadP, by omega⟩
  exact ((PKind.around .thread).inLoop_tail (by simp [PKind.cov, PKind.needCtrl]) n m (by show m < loopLen n pthreadL pthreadLr; omega)).2 (by simp)

theorem C06_generated_unbounded_ends_process (a : Async) (ha : a = .raiseWte false ∨ a = .raiseWte true) (n K : Nat)
    (h1 : pprocessP ≤ K) (h2 : K < pprocessP + loopLen n pprocessL pprocessLr) :
    ∃ F0, ∀ F, F0 ≤ F → StreamEnds n (stoppedRun pprocessRun F n K a) := by
  obtain ⟨m, rfl⟩ : ∃ m, K = pprocessP + m := ⟨K - pprocessP, by omega⟩
  exact ((PKind.around .process).inLoop_tail (by rcases ha with rfl | rfl <;> simp [PKind.cov, PKind.needCtrl]) n m
    (by show m < loopLen n pprocessL pprocessLr; omega)).2 (by rcases ha with rfl | rfl <;> simp)

theorem C06_generated_unbounded_ends_remote (a : Async) (ha : a = .raiseWte false ∨ a = .raiseWte true) (n K : Nat)
    (h1 : premoteP ≤ K) (h2 : K < premoteP + loopLen n premoteL premoteLr) :
    ∃ F0, ∀ F, F0 ≤ F → StreamEnds n (stoppedRun premoteRun F n K a) := by
  obtain ⟨m, rfl⟩ : ∃ m, K = premoteP + m := ⟨K - premoteP, by omega⟩
  exact ((PKind.around .remote).inLoop_tail (by rcases ha with rfl | rfl <;> simp [PKind.cov, PKind.needCtrl]) n m
    (by show m < loopLen n premoteL premoteLr; omega)).2 (by rcases ha with rfl | rfl <;> simp)

/-- what `StreamShape` says about the values a reader obtains: they are exactly the first `j` result messages -/
theorem streamShape_items (n : Nat) (r : St × Out) (h : StreamShape n r) :
    ∃ j, j ≤ n ∧ r.1.results.filter (fun m => match m with | .item _ => true | _ => false) = itemsFrom 0 j := by
  have hitems : ∀ c k, (itemsFrom c k).filter (fun m => match m with | .item _ => true | _ => false) = itemsFrom c k := by
    intro c k
    induction k generalizing c with
    | zero => rfl
    | succ k ih => simp [itemsFrom, ih]
  obtain ⟨_, j, hj, h | ⟨e, h⟩⟩ := h
  · exact ⟨j, hj, by rw [h]; exact hitems 0 j⟩
  · exact ⟨j, hj, by rw [h]; simp [List.filter_append, hitems]⟩

/-! non-vacuity and cross-checks with the interpreter run at a fixed fuel: the loop is entered, left by the event in the
    third pass (process: between the counter bump and the send), and the shapes differ -/
example : (stoppedRun pprocessRun 400 5 (pprocessP + 2 * (pprocessL + 1) + 3) (.raiseWte true)).1.results =
    [.item 1, .item 2, .endMarker 2] := by decide +kernel
example : (stoppedRun pprocessRun 400 5 (pprocessP + 2 * (pprocessL + 1) + pprocessL) (.raiseWte true)).1.results =
    [.item 1, .item 2, .endMarker 3] := by decide +kernel
example : (stoppedRun pprocessRun 400 3 (pprocessP + 1 * (pprocessL + 1) + 3) .kill).1.results = [.item 1] := by decide +kernel
/-- the alternative "nothing after the results" is needed for a graceful stop too: a `terminate()` landing in the thread
    worker's clean-up loses the end marker (the known finding of C06) -/
example : (stoppedRun pthreadRun 400 2 (pthreadP + loopLen 2 pthreadL pthreadLr + 1) (.raiseWte false)).1.results =
    [.item 1, .item 2] := by decide +kernel
example : (stoppedRun premoteRun 400 2 (premoteP + 1) (.raiseWte true)).1.results = [.endMarker 0] := by decide +kernel
/-- the landing points that the hypothesis `hK` of the remote theorem excludes do exist -/
example : premoteP + loopLen 2 premoteL premoteLr < (lineTrace premoteRun {} [.item, .item, .release]).length := by decide +kernel

end PwVerif.C06
