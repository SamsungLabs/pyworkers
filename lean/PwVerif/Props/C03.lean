import PwVerif.Model.Lifecycle
import PwVerif.Gen.RunLoops
/-!
# C03 — graceful terminate interrupts the target wherever it is and is reported as such

Programs regenerated from /repo on every run. Landing points: every line event strictly
after the statement that lets the constructor return (`<prog>Start`), i.e. every instant at
which a parent can have called `terminate()`. Thread kind: the exception is raised directly
in the target thread; process / remote kinds: through the child's control thread
(`raiseWte true`: also sets `_terminate_req`; a request arriving after that thread was
released is lost - then the worker simply ends with its own outcome).

* `C03_in_target_*`: a request landing while the target runs is reported as
  `WorkerTerminatedError`.
* `C03_dichotomy_*`: at every landing point outside of the run loop's own `except` handlers
  the outcome is either "terminated" or exactly the outcome the same worker reports when left
  alone - nothing else.
* The full dichotomy (without the exclusion) is **false** on the current code:
  `C03_counterexample_thread` / `_process` (known finding, replayed by `harness/c03.py`).
-/
namespace PwVerif.C03
open PwVerif.Py PwVerif.Lifecycle PwVerif.Gen

def obsAt (prog : List Stmt) (kd : Kind) (t : Target) (a : Async) (k : Option Nat) : Obs :=
  observe kd (run prog { target := t } [] k a).1

def trace (prog : List Stmt) (t : Target) : List Nat := lineTrace prog { target := t } []

/-- landing points a parent can reach: after the start-up statement -/
def reachable (prog : List Stmt) (start : Nat) (t : Target) (k : Nat) : Bool :=
  k < (trace prog t).length && (trace prog t).idxOf start < k

def lineAt (prog : List Stmt) (t : Target) (k : Nat) : Nat := ((trace prog t)[k]?).getD 0

def Dich (prog : List Stmt) (kd : Kind) (t : Target) (a : Async) (k : Nat) : Bool :=
  obsAt prog kd t a (some k) == terminated || obsAt prog kd t a (some k) == obsAt prog kd t a none

def dichotomyOutsideHandlers (prog : List Stmt) (start : Nat) (kd : Kind) (a : Async) : Prop :=
  ∀ t ∈ Target.all, ∀ k < (trace prog t).length, reachable prog start t k = true →
    (handlerLinesL prog).contains (lineAt prog t k) = false → Dich prog kd t a k = true

def inTarget (prog : List Stmt) (start : Nat) (kd : Kind) (a : Async) : Prop :=
  ∀ t ∈ Target.all, ∀ k < (trace prog t).length, reachable prog start t k = true →
    lineAt prog t k = 0 → obsAt prog kd t a (some k) = terminated

theorem C03_dichotomy_thread : dichotomyOutsideHandlers threadRun threadRunStart .thread (.raiseWte false) := by
  unfold dichotomyOutsideHandlers; decide +kernel
theorem C03_dichotomy_process : dichotomyOutsideHandlers processRun processRunStart .process (.raiseWte true) := by
  unfold dichotomyOutsideHandlers; decide +kernel

theorem C03_in_target_thread : inTarget threadRun threadRunStart .thread (.raiseWte false) := by
  unfold inTarget; decide +kernel
theorem C03_in_target_process : inTarget processRun processRunStart .process (.raiseWte true) := by
  unfold inTarget; decide +kernel
theorem C03_in_target_remote : inTarget remoteRun remoteRunStart .remote (.raiseWte true) := by
  unfold inTarget; decide +kernel

/-- The full dichotomy, without excluding the handlers. -/
def C03_full (prog : List Stmt) (start : Nat) (kd : Kind) (a : Async) : Prop :=
  ∀ t ∈ Target.all, ∀ k < (trace prog t).length, reachable prog start t k = true → Dich prog kd t a k = true

/-- thread kind, target raises, request lands in the `except BaseException` handler:
    reported as (True, None, None) - neither outcome. -/
theorem C03_counterexample_thread : ¬ C03_full threadRun threadRunStart .thread (.raiseWte false) := by
  unfold C03_full; decide +kernel
theorem C03_counterexample_process : ¬ C03_full processRun processRunStart .process (.raiseWte true) := by
  unfold C03_full; decide +kernel

/-- the remote backend has a second, outer handler: for it the full dichotomy does hold -/
theorem C03_full_remote : C03_full remoteRun remoteRunStart .remote (.raiseWte true) := by
  unfold C03_full; decide +kernel
theorem C03_dichotomy_remote : dichotomyOutsideHandlers remoteRun remoteRunStart .remote (.raiseWte true) :=
  fun t ht k hk hr _ => C03_full_remote t ht k hk hr

/-- non-vacuity: there are reachable landing points, inside the target and elsewhere -/
example : (List.range (trace threadRun .returns).length).filter (reachable threadRun threadRunStart .returns) ≠ [] := by
  decide +kernel
example : ∃ k, reachable processRun processRunStart .returns k = true ∧ lineAt processRun .returns k = 0 :=
  ⟨22, by decide +kernel⟩

end PwVerif.C03
