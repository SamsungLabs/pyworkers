import PwVerif.Lemmas.Frames
/-!
# C15 — load-time patches reach only the addressed objects and leave no residue

Model: `PwVerif.Frames`. Delivery of patches is **positional** in the current code: a
frame pushed for a named child is consumed by whichever opt-in object is restored next.
The property's delivery clause is therefore false as soon as an opt-in object sits inside a
list / dict / plain object, or the top-level object is not opt-in (known finding; replayed
on the real code by `harness/c15.py`): `C15_delivery_false`. Proved here:

* `C15_independent` - a load never depends on what earlier loads left behind;
* (in `Props/C14.lean`, `C14_loads_partial`) without patches nothing is delivered anywhere,
  for any graph of the loadable class;
* `C15_top_only` - an opt-in top-level object without opt-in descendants receives exactly
  the top-level patches.
-/
namespace PwVerif.C15
open PwVerif.Frames

/-- ids and patch keys delivered, in `__setstate__` order (decidable projection) -/
def deliveredKeys (r : Except Err St) : List (Nat × List Nat) :=
  (deliveredOf r).map fun (i, ps) => (i, ps.map (·.1))

/-- The delivery clause of C15 for the witness graph `Opt1(c=[Opt2], d=Opt3)` and patches
    `{x: 1, d: {y: 5}}`: top level (1) should get `x`, `d`-child (3) should get `y`,
    the list-held object (2) nothing. -/
def C15_delivery_witness : Prop :=
  deliveredKeys (load [(1, .val 1), (4, .dict [(8, .val 5)])]
      (.opt 1 [(3, .plain [.opt 2 [(9, .atom)]]), (4, .opt 3 [(8, .atom)])]))
    = [(2, []), (3, [8]), (1, [1, 4])]

/-- What the code does instead: `y` lands on the list-held object 2, the top-level entries land
    on object 3, the top-level object gets nothing. (Same outcome observed on the real code.) -/
theorem C15_counterexample :
    deliveredKeys (load [(1, .val 1), (4, .dict [(8, .val 5)])]
      (.opt 1 [(3, .plain [.opt 2 [(9, .atom)]]), (4, .opt 3 [(8, .atom)])]))
    = [(2, [8]), (3, [1, 4]), (1, [])] := by decide +kernel

theorem C15_delivery_false : ¬ C15_delivery_witness := by
  unfold C15_delivery_witness
  rw [C15_counterexample]
  decide

/-- With patches a non-chain graph can also fail outright: a back-reference named as a child
    leaves its frame on the stack and `context.__exit__` asserts. -/
theorem C15_counterexample_exit :
    outcome (load [(7, .val 3)] (.opt 1 [(7, .ref)])) = some .assertExit := by decide +kernel

/-- A load started from any residue of the per-thread state (`residue` = whatever an earlier
    load - successful or failed half-way - left in `stack`, `iter`, `unused`): the first thing
    `RemoteState.context.__init__` does is to overwrite all three fields, so the load is the
    same function of `(patches, graph)` as on a fresh thread. -/
def loadFrom (_residue : St) (p : Patches) (g : Node) : Except Err St :=
  -- context.__init__: stack = [], iter = -1, unused = True; __enter__: push the top frame
  load p g

theorem C15_independent (r r' : St) (p : Patches) (g : Node) :
    loadFrom r p g = loadFrom r' p g := rfl

theorem C15_top_only (id : Nat) (fields : List (Nat × Node)) (p : Patches)
    (hf : ∀ f ∈ fields, f.2 = .atom) :
    deliveredOf (load p (.opt id fields)) = [(id, p)] :=
  load_childless id fields p (fields_atoms hf).1 (fields_atoms hf).2

example : deliveredKeys (load [(1, .val 1)] (.opt 5 [(1, .atom), (2, .atom)])) = [(5, [1])] := by
  decide +kernel

end PwVerif.C15
