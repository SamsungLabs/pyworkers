import PwVerif.Lemmas.PoolNR
/-!
# C08, retry disabled — "the normal return value contains only genuine results, at most one per input, and every
input missing from the result had been handed (or was being handed) to a worker that died before answering it"

Model: `PwVerif.Pool` with `c.retry = false` (no user `enqueue_fn`: `NoRetry`). The pool model records every input
it gives up in the ghost list `St.dropped` (`Drop.w` = the worker, `Drop.handed` = it was on that worker's pending
list / it was just being offered to it). Quantifiers as for C07. The same model runs against the real `Pool.run` with
`retry=False` in `harness/c08.py`. (An input *refused* by a user `enqueue_fn` is not given up: it waits on the retry
list whatever the retry policy - `C08_noretry_refused_after_fix`.)
-/
namespace PwVerif.C08
open PwVerif.Pool

/-- **genuine, at most once** (retry off): at every moment of every schedule the results collected so far contain
    each input at most as often as it was given. -/
theorem C08_noretry_genuine (c : Cfg) (hc : NoRetry c) (pick : List Nat → Option Nat)
    (n : Nat) (src : List Inp) (pre evs : List Ev) (i : Inp) :
    (runEvents c pick (start c pick n src pre) evs).ret.count i ≤ src.count i := by
  have := (nr_reach hc pick n src pre evs).1.cons i
  omega

/-- **every missing input is accounted for** (retry off). When the run returns normally, each input is either in
    the result or was given up - exactly as often as it was given; and every input given up belongs to a worker
    that the pool has declared dead, that really is dead, and that either had accepted it (`handed`: the pair is in
    the log of successful `enqueue` calls) or was being offered it when it was found dead. -/
theorem C08_noretry_missing_accounted (c : Cfg) (hc : NoRetry c) (pick : List Nat → Option Nat)
    (n : Nat) (src : List Inp) (pre evs : List Ev) (ret : List Inp)
    (h : outcome (runEvents c pick (start c pick n src pre) evs) = .returned ret) :
    let s := runEvents c pick (start c pick n src pre) evs
    (∀ i, src.count i = ret.count i + (s.dropped.map (fun d => d.inp)).count i) ∧
    (∀ d ∈ s.dropped, d.w < s.ws.length ∧ (getW s d.w).closed = true ∧ (getW s d.w).alive = false ∧
        (d.handed = true → (d.w, d.inp) ∈ s.enq)) := by
  have hinv := (nr_reach hc pick n src pre evs).1
  obtain ⟨_, hd, hpend, _, rfl⟩ := outcome_spec h
  refine ⟨fun i => ?_, fun d hdm => ?_⟩
  · have := hinv.cons i
    simp only [hinv.depl hd, ppwCount_of_pending hinv.pending hpend i, dropCount, List.count_nil] at this
    omega
  · obtain ⟨hw, hcl⟩ := hinv.dead d hdm
    exact ⟨hw, hcl, (hinv.ws _ (getW_mem _ d.w hw)).2.closed_dead hcl, hinv.handed d hdm⟩

/-- **soundness of PoolError with retry off**: the run fails only when every worker has been declared dead. -/
theorem C08_noretry_sound (c : Cfg) (hc : NoRetry c) (pick : List Nat → Option Nat)
    (n : Nat) (src : List Inp) (pre evs : List Ev) (part : List Inp)
    (h : outcome (runEvents c pick (start c pick n src pre) evs) = .poolError part) :
    ∀ x ∈ (runEvents c pick (start c pick n src pre) evs).ws, x.closed = true ∧ x.alive = false := by
  obtain ⟨hinv, hK⟩ := nr_reach hc pick n src pre evs
  intro x hx
  have hcl := all_closed_of_poolError hinv.pending hK h x hx
  exact ⟨hcl, (hinv.ws x hx).2.closed_dead hcl⟩

/-- with retry off the run never ends with an internal error (no `IndexError`, and the re-dispatch loop has nothing
    to do) -/
theorem C08_noretry_never_internal (c : Cfg) (hc : NoRetry c) (pick : List Nat → Option Nat)
    (n : Nat) (src : List Inp) (pre evs : List Ev) (e : Err) :
    outcome (runEvents c pick (start c pick n src pre) evs) ≠ .internal e := by
  intro h
  have h := outcome_spec h
  rw [(nr_reach hc pick n src pre evs).1.noerr] at h
  cases h

def cNR : Cfg := { retry := false }

theorem cNR_noRetry : NoRetry cNR := ⟨rfl, rfl, fun _ _ => rfl⟩

/-- non-vacuity: worker 1 dies holding input 2 - the run returns [1, 3] and input 2 is recorded as handed to
    worker 1 -/
example :
    let s := runEvents cNR pickFirst (start cNR pickFirst 2 [1, 2, 3])
      [.work 0, .poll [0], .die 1 true, .poll [1], .work 0, .poll [0]]
    outcome s = .returned [1, 3] ∧ s.dropped = [⟨1, 2, true⟩] := by decide +kernel

/-- non-vacuity: worker 1 is dead before the run starts; input 2 is given up while being handed to it -/
example :
    let s := runEvents cNR pickFirst (start cNR pickFirst 2 [1, 2] [.die 1 false]) [.work 0, .poll [0]]
    outcome s = .returned [1] ∧ s.dropped = [⟨1, 2, false⟩] := by decide +kernel

/-- the input that was dropped silently before the repair (retry off, the user `enqueue_fn` refuses it although nobody
    died): it now stays on the retry list, the run ends with `PoolError` instead of returning `[]` -/
theorem C08_noretry_refused_after_fix :
    let c : Cfg := { retry := false, extra := 1, refuse := fun w i => w == 0 && i == 1 }
    let s := runEvents c pickFirst (start c pickFirst 1 [1]) []
    outcome s = .poolError [] ∧ s.retries = [1] ∧ s.dropped = [] := by decide +kernel

end PwVerif.C08
