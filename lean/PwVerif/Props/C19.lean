import PwVerif.Lemmas.Registry
/-!
# C19 — `active_children()` tracks exactly the live workers

The invariant `Inv` (`Lemmas/Registry.lean`) holds after every operation history (`C19_inv`): the registry has no
duplicates, every live worker is registered, registered and live workers have been created. `C19_exact`, `C19_bounded`,
`C19_autoclose` read off it what `active_children()` yields.
Between two calls the dead entries of the registry number at most the completions (`dead_run`).
-/
namespace PwVerif.C19
open PwVerif.Registry

theorem C19_inv (ops : List Op) : Inv (final ops) := inv_run _ _ inv_init

/-- **C19 exactness.** After any history, `active_children()` yields exactly the live
    workers: a worker is yielded iff it is alive, and nothing is yielded twice. -/
theorem C19_exact (ops : List Op) :
    let out := (step (final ops) .active).2
    out.Nodup ∧ ∀ w, w ∈ out ↔ w ∈ (final ops).alive :=
  ⟨(C19_inv ops).regNodup.filter _, fun _ => mem_active (C19_inv ops).aliveReg⟩

/-- **C19 retention.** Right after `active_children()` the registry holds exactly as many
    entries as there are live workers - dead workers (and their results) are not retained. -/
theorem C19_bounded (ops : List Op) :
    (step (final ops) .active).1.reg.length = (final ops).alive.length :=
  -- the registry after the call is the list the call returns
  show (step (final ops) .active).2.length = _ from (active_perm (C19_inv ops)).length_eq

/-- **C19 autoclose.** Leaving the autoclose block (cooperative workers) leaves no live worker. -/
theorem C19_autoclose (ops : List Op) : (step (final ops) .autoclose).1.alive = [] :=
  List.filter_eq_nil_iff.mpr fun w hw => by
    simpa [step] using (mem_active (C19_inv ops).aliveReg).mpr hw

/-- Non-vacuity: create three, finish one, prune, restart it (it must come back), finish another. -/
example : (run {} [.create true, .create true, .create false, .create true, .finish 1, .active,
      .restart 1, .active, .finish 0, .active]).2
    = [[], [], [], [], [], [0, 3], [], [0, 3, 1], [], [3, 1]] := by decide

theorem dead_step (s : St) (op : Op) (h : Inv s) (hop : noPrune [op] = true) :
    dead (step s op).1 ≤ dead s + finishes [op] := by
  cases op with
  | create r => exact dead_create_le s r
  | finish w => exact dead_finish_le s w h.regNodup
  | restart w => exact dead_restart_le s w
  | active => simp [noPrune] at hop
  | autoclose => simp [noPrune] at hop

theorem dead_run (s : St) (ops : List Op) (h : Inv s) (hn : noPrune ops = true) :
    dead (run s ops).1 ≤ dead s + finishes ops := by
  induction ops generalizing s with
  | nil => exact Nat.le_refl _
  | cons op ops ih =>
    obtain ⟨h1, h2⟩ := noPrune_cons hn
    have a := dead_step s op h h1
    have b : dead (run s (op :: ops)).1 ≤ _ := ih (step s op).1 (inv_step s op h) h2
    rw [finishes_cons]
    omega

/-- Right after `active_children()` the registry retains no dead worker at all. -/
theorem dead_active (s : St) : dead (step s .active).1 = 0 :=
  -- an entry that the call's filter keeps is alive, so it is not counted
  List.countP_eq_zero.mpr fun _ hx h =>
    of_decide_eq_true h (of_decide_eq_true (List.mem_filter.mp hx).2)

/-- **C19 retention over a whole history** ("a long-lived program ... retains neither them nor
    their results"): at *every* moment of *every* history the registered workers that are no
    longer alive number at most the completions (return, raise, terminate, kill) that happened
    since the last `active_children()` call - whatever was created, finished or restarted before
    that call (`ops`) and whatever is created or restarted since (`since`). Dead workers therefore
    never accumulate: each `active_children()` call brings the count back to zero. -/
theorem C19_retention_history (ops since : List Op) (hn : noPrune since = true) :
    dead (run (step (final ops) .active).1 since).1 ≤ finishes since := by
  have h := dead_run (step (final ops) .active).1 since (inv_step _ _ (C19_inv ops)) hn
  rwa [dead_active, Nat.zero_add] at h

/-- A restart never adds to what the registry retains of the dead (the restarted worker is
    registered once, and it is alive), and neither does a creation. -/
theorem C19_restart_create_retain_nothing (ops : List Op) (op : Op)
    (hop : (∃ w, op = .restart w) ∨ (∃ r, op = .create r)) :
    dead (step (final ops) op).1 ≤ dead (final ops) := by
  rcases hop with ⟨w, rfl⟩ | ⟨r, rfl⟩
  · exact dead_restart_le _ w
  · exact dead_create_le _ r

/-- Non-vacuity: prune, then three completions and two creations - the registry holds the three
    dead ones (the bound is reached), and the next call drops them. -/
example : dead (run (step (final [.create true, .create true, .create true, .create true, .finish 0])
      .active).1 [.finish 1, .create true, .finish 2, .finish 4, .create true]).1 = 3 := by decide

end PwVerif.C19
