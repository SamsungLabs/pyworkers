import PwVerif.Lemmas.Contexts
/-!
# C18 — remote contexts are unique per id, supply their workers' work, and clean up

`abs` (the set of registered ids of a table): `Lemmas/Contexts.lean`.
-/
namespace PwVerif.C18
open PwVerif.Contexts

/-- **C18 refinement.** For every operation history the replies of the server's table are those of
    the dictionary specification, and the set of registered ids is the specification's set:
    a duplicate create is refused and changes nothing, a delete frees the id (whether or not it
    existed), an id can be registered again afterwards, and requests naming an unknown context
    are refused without touching the table. -/
theorem C18_refines (ops : List Op) (t : Table) (s : Nat → Bool) (h : ∀ j, abs t j = s j) :
    (run t ops).2 = (specRun s ops).2 ∧ ∀ j, abs (run t ops).1 j = (specRun s ops).1 j := by
  induction ops generalizing t s with
  | nil => exact ⟨rfl, h⟩
  | cons op ops ih =>
    obtain rfl : abs t = s := funext h
    obtain ⟨hr, ha⟩ := step_refines t op
    obtain ⟨ihr, iha⟩ := ih (step t op).1 (specStep (abs t) op).1 ha
    simp only [run, specRun]
    exact ⟨by rw [hr, ihr], iha⟩

/-- duplicate registration leaves the first context intact -/
theorem C18_duplicate (t : Table) (i p : Nat) (h : has t i = true) : step t (.create i p) = (t, .exists) := by
  simp [step, h]

/-- after a delete the id is free and can be registered again -/
theorem C18_reregister (t : Table) (i p : Nat) :
    (step (step t (.delete i)).1 (.create i p)).2 = .ok := by
  have : has (t.filter (·.1 != i)) i = false := by rw [has_filter]; simp
  simp [step, this]

/-- an unknown context never changes the table (and, by `C11_policy`, never stops the server) -/
theorem C18_unknown_harmless (t : Table) (i : Nat) (h : has t i = false) :
    step t (.workerIn i) = (t, .refused) := by
  simp [step, h]

example : (run [] [.create 1 0, .create 1 1, .workerIn 1, .workerIn 2, .delete 1, .workerIn 1, .create 1 2, .delete 7]).2
    = [.ok, .exists, .ok, .refused, .ok, .refused, .ok, .ok] := by decide

theorem keys_step (t : Table) (op : Op) (h : (t.map (·.1)).Nodup) : ((step t op).1.map (·.1)).Nodup := by
  fun_cases step t op
  case case2 i p hi =>
    -- the new key is not among the old ones
    simp only [List.map_append, List.map_cons, List.map_nil]
    exact (List.perm_append_singleton ..).nodup_iff.mpr (List.nodup_cons.mpr ⟨mt (has_iff t i).mpr hi, h⟩)
  case case3 i => exact (List.filter_sublist.map _).nodup h
  all_goals exact h

theorem keys_run (t : Table) (ops : List Op) (h : (t.map (·.1)).Nodup) :
    ((run t ops).1.map (·.1)).Nodup := by
  induction ops generalizing t with
  | nil => exact h
  | cons op ops ih => exact ih _ (keys_step t op h)

/-- **C18 uniqueness.** Whatever the history of requests (duplicates, deletes of unknown ids,
    re-registrations, workers in known and unknown contexts), the server's table never holds two
    contexts under one id. -/
theorem C18_unique (ops : List Op) : (((run [] ops).1).map (·.1)).Nodup :=
  keys_run [] ops .nil

/-- **C18 clean-up.** A delete leaves nothing of that id in the table (no entry survives that a
    later worker request could reach), and touches no other context. -/
theorem C18_delete_leaves_nothing (t : Table) (i : Nat) :
    (∀ x ∈ (step t (.delete i)).1, x.1 ≠ i) ∧ ∀ x ∈ t, x.1 ≠ i → x ∈ (step t (.delete i)).1 := by
  simp only [step]
  constructor
  · intro x hx; simpa using (List.mem_filter.mp hx).2
  · intro x hx hne; exact List.mem_filter.mpr ⟨hx, by simpa using hne⟩

example : ((run [] [.create 1 0, .create 2 0, .create 1 1, .delete 1, .create 1 2, .create 3 0, .delete 9]).1).map (·.1)
    = [2, 1, 3] := by decide

/-- **C18: workers get their own context's work.** After every history the context that the server
    hands a worker request for id `j` to is the one the dictionary specification holds under `j`:
    the payload (target and defaults) of the *first* successful registration of `j` since the last
    delete of `j` - a refused duplicate never replaces it, deletes and registrations of other ids
    never disturb it, and after a delete nothing of the old context is served. -/
theorem C18_serves_own (ops : List Op) (t : Table) (j : Nat) :
    serves (run t ops).1 j = specServeRun (serves t) ops j := by
  induction ops generalizing t with
  | nil => rfl
  | cons op ops ih =>
    have : serves (step t op).1 = specServe (serves t) op := funext (serve_step t op)
    simp only [run, specServeRun, ih, this]

theorem C18_accepts_iff_served (t : Table) (i : Nat) :
    (step t (.workerIn i)).2 = .ok ↔ (serves t i).isSome = true := by
  simp only [step, has_eq]
  cases (serves t i).isSome <;> simp

example : serves (run [] [.create 1 10, .create 2 20, .create 1 11, .delete 2, .create 2 21, .delete 3]).1 1 = some 10
    ∧ serves (run [] [.create 1 10, .create 2 20, .create 1 11, .delete 2, .create 2 21, .delete 3]).1 2 = some 21 := by decide

end PwVerif.C18
