import PwVerif.Lemmas.PoolRegistry
import PwVerif.Gen.PoolRegistry
/-!
# C09, continued — no worker outlives its pool: the registry side

`Gen.regCfg` is regenerated from /repo on every run (T-reg).

* `C09_restart_keeps_ownership`: whatever the outcomes of the individual restarts - including a worker that
  cannot be stopped, which makes `restart_workers` raise in the middle - every worker of the pool is still
  registered afterwards (as its old or its new incarnation): nothing is lost from the pool's tables.
* `C09_close_kills_all`: leaving the pool (`close`, `terminate`, `__exit__` normally or by an exception) with
  forced termination not explicitly disabled leaves no registered worker alive, whatever state each was in.
* `C09_nobody_outlives`: the two combined.
* `C09_failed_add`: a worker whose registration fails is not registered, was terminated, and the error is re-raised.
* Both fail for the seeded orders / conditions: `C09_counterexample_forget_first`.
* `C09_interrupted_close`: `close()` interrupted by Ctrl-C any number of times, then `terminate()`: nobody is left alive
  (`interruptedTimes`: `Lemmas/PoolRegistry.lean`); `C09_counterexample_closed_in_finally` for the seeded order.
-/
namespace PwVerif.C09
open PwVerif.PoolRegistry

theorem C09_restart_keeps_ownership (reg : Reg) (outs : List RestartOutcome) :
    (restartWorkers Gen.regCfg reg outs).1.length = reg.length := by
  simpa [restartWorkers] using restartLoop_length Gen.regCfg rfl rfl [] reg outs

/-- a worker that `restart()` could not stop is still in the registry afterwards -/
theorem restartLoop_keeps_stuck (cfg : Cfg) (h1 : cfg.restartBeforeForget = true) :
    ∀ (todo done : Reg) (outs : List RestartOutcome) (w : W), w ∈ done →
      w ∈ (restartLoop cfg done todo outs).1 := by
  intro todo done outs w hw
  fun_induction restartLoop cfg done todo outs with
  | case1 => exact hw
  | case2 => exact List.mem_append_left _ hw
  | case3 done x rest newId outs w' ih =>
    apply ih
    split
    · exact List.mem_append_left _ hw
    · exact hw
  | case4 => simp [h1, hw]

theorem C09_close_kills_all (reg : Reg) (force : Option Bool) (hf : force ≠ some false) (graceful : Bool) :
    ∀ w ∈ closeAll Gen.regCfg force graceful reg, w.alive = false := by
  intro w hw
  rw [closeAll_eq_map Gen.regCfg rfl rfl] at hw
  obtain ⟨x, _, rfl⟩ := List.mem_map.mp hw
  exact cleanupWorker_dead Gen.regCfg rfl rfl force hf graceful x

/-- **no worker outlives its pool**: after any `restart_workers` (even one that raised because a worker could not
    be stopped), leaving the pool leaves nobody alive - and nobody was dropped from the registry on the way -/
theorem C09_nobody_outlives (reg : Reg) (outs : List RestartOutcome) (force : Option Bool) (hf : force ≠ some false)
    (graceful : Bool) :
    (restartWorkers Gen.regCfg reg outs).1.length = reg.length ∧
    ∀ w ∈ closeAll Gen.regCfg force graceful (restartWorkers Gen.regCfg reg outs).1, w.alive = false :=
  ⟨C09_restart_keeps_ownership reg outs, C09_close_kills_all _ force hf graceful⟩

theorem C09_failed_add (reg : Reg) (w : W) :
    (addWorker Gen.regCfg reg w .registrationFails).1 = reg ∧
    (addWorker Gen.regCfg reg w .registrationFails).2 = some { w with alive := false } ∧
    (addWorker Gen.regCfg reg w .ctorFails) = (reg, none) ∧
    Gen.regCfg.addReraises = true := by
  -- the regenerated handler forgets the worker and terminates it
  have h1 : Gen.regCfg.addForgets = true := rfl
  have h2 : Gen.regCfg.addTerminates = true := rfl
  exact ⟨by simp [addWorker, h1], by simp [addWorker, h1, h2], rfl, rfl⟩

/-- forgetting the old incarnation *before* restarting it (seeded change C09-A): a worker that cannot be stopped
    drops out of the registry when `restart()` raises, and leaving the pool then never reaches it -/
theorem C09_counterexample_forget_first :
    let cfg : Cfg := { Gen.regCfg with restartBeforeForget := false }
    let stuck : W := { id := 1, alive := true, stuck := true }
    (restartWorkers cfg [stuck] [.raises]).1 = [] := by decide

/-- **Ctrl-C while `close()` is waiting.** The join of the clean-up threads is interrupted (they are aborted, nobody is known
    to be dead) and the exception travels on; leaving the `with` block calls `terminate()` - or the user calls it. Because the
    pool is marked closed only *behind* the join, that second call does the whole job again: afterwards the pool is closed and
    no registered worker is alive. Any number of interrupted attempts (`interruptedTimes`, `Lemmas/PoolRegistry.lean`) may
    come first. -/
theorem C09_interrupted_close (reg : Reg) (k : Nat) (force : Option Bool) (hf : force ≠ some false) (graceful : Bool) :
    let s1 := interruptedTimes Gen.regCfg k ⟨reg, false⟩
    let s2 := closePool Gen.regCfg force graceful s1
    s2.closed = true ∧ ∀ w ∈ s2.reg, w.alive = false := by
  simp only [interruptedTimes_open Gen.regCfg rfl, closePool, Bool.and_false, Bool.false_eq_true,
    if_false, true_and]
  exact C09_close_kills_all reg force hf graceful

/-- marking the pool closed on the interrupted path as well (seeded change C09-E): the `terminate()` of `__exit__` becomes a
    no-op and a stuck worker outlives the pool -/
theorem C09_counterexample_closed_in_finally :
    let cfg : Cfg := { Gen.regCfg with closeMarksAfterJoin := false }
    let stuck : W := { id := 1, alive := true, stuck := true }
    closePool cfg none false (closeInterrupted cfg ⟨[stuck], false⟩) = ⟨[stuck], true⟩ := by decide

example : closeAll Gen.regCfg none true [{ id := 1, alive := true, stuck := true }, { id := 2, alive := true, stuck := false }]
    = [{ id := 1, alive := false, stuck := true }, { id := 2, alive := false, stuck := false }] := by decide
/-- with forced termination explicitly disabled a stuck worker survives `close()` - allowed by the property -/
example : (closeAll Gen.regCfg (some false) true [{ id := 1, alive := true, stuck := true }]) = [{ id := 1, alive := true, stuck := true }] := by decide

end PwVerif.C09
