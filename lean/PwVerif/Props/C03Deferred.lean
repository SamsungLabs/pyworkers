import PwVerif.Lemmas.Deferred
/-!
# C03, continued — deferred delivery: the control thread has the request, the exception comes later

`deferred d`: the child's control thread *receives* the request at landing point `k` (and sets
`_terminate_req`) but raises the exception only `d` line events of the working thread later (it was
descheduled between `recv()` and `foreign_raise`), or when the working thread joins it - whichever
comes first. The `join()` that follows the release of the control thread is what fences the delivery
inside the `try` blocks of `_run_backend`; without it the exception lands in the outer `finally`,
the result message is never sent and the parent sees neither outcome.

Quantifier: every target × every reachable arrival point `k` × every delay `d ≤ (number of line
events after k)` - a larger delay means the exception is never raised in the working thread, which is
what `d = number of remaining events` already gives. Programs regenerated from /repo on every run;
the table itself is evaluated by the kernel in `Lemmas/Deferred.lean`.
-/
namespace PwVerif.C03
open PwVerif.Py PwVerif.Lifecycle PwVerif.Gen PwVerif.Deferred

/-- **C03 under deferred delivery**: at every reachable arrival point and for every delay the outcome is
    "terminated" or the worker's own outcome (unless the exception is raised inside the run loop's own
    `except` handlers - the known finding); raised while the target runs (line 0) it is "terminated". -/
def deferredOK (prog : List Stmt) (start : Nat) (kd : Kind) : Prop :=
  ∀ t : Target, deferredAll prog { target := t } [] start (dich kd (handlerLinesL prog)) = true

theorem C03_deferred_process : deferredOK processRun processRunStart .process :=
  fun t => table_dich (process_table t)

theorem C03_deferred_remote : deferredOK remoteRun remoteRunStart .remote :=
  fun t => table_dich (remote_table t)

/-- the fence: a request received while the target runs and still undelivered when the target returns is
    raised at the `join()` of the control thread, inside the `try` blocks: reported as terminated -/
example : (run remoteRun {} [] (some 40) (.deferred 30)).1.raisedAt.isSome = true ∧
    observe .remote (run remoteRun {} [] (some 40) (.deferred 30)).1 = terminated := by decide +kernel

example : (run processRun {} [] (some 20) (.deferred 1)).1.raisedAt = some 0 ∧
    observe .process (run processRun {} [] (some 20) (.deferred 1)).1 = terminated := by decide +kernel

end PwVerif.C03
