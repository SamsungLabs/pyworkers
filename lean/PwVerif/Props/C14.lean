import PwVerif.Lemmas.Frames
/-!
# C14 — every opt-in object is restored; loading always succeeds

Model: `PwVerif.Frames` (the positional frame stack of `_remote_pickle/state.py` as it is).

The property's "loading always succeeds for any number of opt-in siblings" is **false** of
the current code (known finding, reproduced on the real code by `harness/c14.py`):
`C14_full_false`. What is proved is the exact boundary: a load without patches succeeds
and leaves the stack clean **iff-side** whenever no opt-in object names more than one
opt-in direct child (`C14_loads_partial`), for graphs of any size, depth and shape.
-/
namespace PwVerif.C14
open PwVerif.Frames

mutual
/-- every opt-in object of the graph names at most one direct opt-in child
    (back-references to opt-in objects count: the dumper names them too) -/
def wf : Node → Bool
  | .atom => true
  | .ref => true
  | .plain items => wfL items
  | .opt _ fields => decide ((namesF fields).length ≤ 1) && wfF fields
def wfL : List Node → Bool
  | [] => true
  | n :: ns => wf n && wfL ns
def wfF : List (Nat × Node) → Bool
  | [] => true
  | (_, n) :: fs => wf n && wfF fs
end

/-- The full statement of the loading half of C14 (no patches). -/
def C14_full : Prop := ∀ g : Node, ∃ s, load [] g = .ok s

/-- Two opt-in siblings under one opt-in parent: the real code raises `AssertionError`
    in `child_restored`; so does the model. -/
theorem C14_counterexample_siblings :
    outcome (load [] (.opt 1 [(1, .opt 2 []), (2, .opt 3 [])])) = some .assertChildRestored := by
  decide +kernel

/-- One opt-in child plus a reference back to the parent itself (a cycle) fails the same way. -/
theorem C14_counterexample_cycle :
    outcome (load [] (.opt 1 [(1, .opt 2 []), (2, .ref)])) = some .assertChildRestored := by
  decide +kernel

theorem C14_full_false : ¬ C14_full := by
  intro h
  obtain ⟨s, hs⟩ := h (.opt 1 [(1, .opt 2 []), (2, .opt 3 [])])
  have := C14_counterexample_siblings
  rw [hs] at this
  cases this

mutual
theorem run_wf (g : Node) (hg : wf g = true) : KeepsJ (events g) :=
  match g with
  | .atom => KeepsJ.nil
  | .ref => KeepsJ.nil
  | .plain items => run_wfL items (by simpa only [wf] using hg)
  | .opt id fields => by
    simp only [wf, Bool.and_eq_true, decide_eq_true_eq] at hg
    exact KeepsJ.opt id hg.1 (run_wfF fields hg.2)
-- (the conclusions of `run_wfL` and `run_wfF` are `KeepsJ (eventsL l)` / `KeepsJ (eventsF l)`, written out)
theorem run_wfL (l : List Node) (hl : wfL l = true) (s : St) (h : J s) :
    ∃ s', runEvents s (eventsL l) = .ok s' ∧ J s' ∧ s'.stack.length ≤ s.stack.length :=
  match l with
  | [] => KeepsJ.nil s h
  | n :: ns => by
    simp only [wfL, Bool.and_eq_true] at hl
    exact (run_wf n hl.1).append (run_wfL ns hl.2) s h
theorem run_wfF (l : List (Nat × Node)) (hl : wfF l = true) (s : St) (h : J s) :
    ∃ s', runEvents s (eventsF l) = .ok s' ∧ J s' ∧ s'.stack.length ≤ s.stack.length :=
  match l with
  | [] => KeepsJ.nil s h
  | (k, n) :: ns => by
    simp only [wfF, Bool.and_eq_true] at hl
    exact (run_wf n hl.1).append (run_wfF ns hl.2) s h
end

/-- **C14 (loading), partial.** For every graph - any size, depth, mixture of containers,
    shared references and cycles through non-opt-in holders - in which no opt-in object
    names more than one opt-in direct child, a load without patches never hits an assertion,
    `context.__exit__` finds the stack empty and the iterator at -1, and every opt-in
    object's `__setstate__` receives no patch entry, i.e. exactly its own remote state. -/
theorem C14_loads_partial (g : Node) (hg : wf g = true) :
    ∃ s, load [] g = .ok s ∧ s.stack = [] ∧ s.iter1 = 0 ∧ ∀ e ∈ s.delivered, e.2 = [] := by
  have j0 : J (enter []) := by simp [enter, J]
  obtain ⟨s, e, j, l⟩ := run_wf g hg (enter []) j0
  have hlen : s.stack.length = 0 := by simpa [enter] using l
  have hnil : s.stack = [] := List.length_eq_zero_iff.mp hlen
  have hit : s.iter1 = 0 := by rw [j.1, hlen]
  exact ⟨s, by simp [load, e, exit, hnil, hit], hnil, hit, j.2.2⟩

example : wf (.opt 1 [(1, .plain [.opt 2 [], .opt 3 []]), (2, .opt 4 [(1, .ref)])]) = true := by decide
example : outcome (load [] (.opt 1 [(1, .plain [.opt 2 [], .opt 3 []]), (2, .opt 4 [(1, .ref)])])) = none := by
  decide +kernel

end PwVerif.C14
