import PwVerif.Model.Handshake
import PwVerif.Gen.Frontend
import PwVerif.Gen.ServerLoop
/-!
# C20 — creating a worker returns a usable worker or raises, it never hangs

`Gen.frontend` is regenerated from /repo (T-front): the steps of the client side of the handshake,
whether each lies inside the `try`, what its handler catches, whether the handler records the
failure and sets the start-up event, whether the constructor re-raises.

* `C20_never_hangs`: for every step of the handshake and every way that step can fail (connection
  closed or reset inside send/recv, a bare socket error from `connect`, an answer that cannot be
  decoded) the constructor raises - it neither hangs nor returns a half-built worker.
* `C20_general`: the same for *any* handshake of any length whose steps are all inside a `try`
  whose handler catches `Exception`, records the error and sets the event (so adding steps does
  not need a new proof).
* `C20_server_answers_or_closes`: the server never leaves a skipped request's socket open and silent
  (`Gen.skippedRequestsClosed`, shared with C11), which is the premise "the peer eventually answers
  or closes" that turns a blocking `recv` into a failure.
* `C20_closedOnly_counterexample`: what narrowing the handler to ConnectionClosedError would do
  (a refused control connection hangs the constructor).
-/
namespace PwVerif.C20
open PwVerif.Handshake PwVerif.Gen

def allFailures : List Failure := [.closed, .osError, .other]

theorem C20_no_fault_returns : ctor frontend none = .returnsWorker := rfl

theorem C20_general (fe : Frontend) (i : Nat) (f : Failure)
    (hin : ∀ s ∈ fe.steps, s.insideTry = true) (hc : fe.catches = .exception ∨ fe.catches = .baseException)
    (hr : fe.handlerRecordsError = true) (hs : fe.handlerSetsEvent = true) (hre : fe.startReraises = true)
    (hi : i < fe.steps.length) :
    ctor fe (some (i, f)) = .raises := by
  have hcaught : caught fe.catches f = true := by
    rcases hc with h | h <;> rw [h] <;> rfl
  simp [ctor, List.getElem?_eq_getElem hi, hin _ (List.getElem_mem hi), hcaught, hs, hr, hre]

theorem C20_generated_satisfies_general :
    (∀ s ∈ frontend.steps, s.insideTry = true) ∧ frontend.catches = .exception ∧
    frontend.handlerRecordsError = true ∧ frontend.handlerSetsEvent = true ∧ frontend.startReraises = true := by
  decide

theorem C20_never_hangs :
    ∀ i < frontend.steps.length, ∀ f ∈ allFailures,
      (match frontend.steps[i]? with | some s => possible s.kind f | none => false) = true →
      ctor frontend (some (i, f)) = .raises := by
  obtain ⟨hin, hc, hr, hs, hre⟩ := C20_generated_satisfies_general
  exact fun i hi f _ _ => C20_general frontend i f hin (.inl hc) hr hs hre hi

theorem C20_server_answers_or_closes : skippedRequestsClosed = 2 := by decide

theorem C20_closedOnly_counterexample :
    ctor { frontend with catches := .closedOnly } (some (3, .osError)) = .hangs := by decide

example : frontend.steps.length = 5 := by decide

end PwVerif.C20
