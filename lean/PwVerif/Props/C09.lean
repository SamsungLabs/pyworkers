import PwVerif.Lemmas.PoolRuns
import PwVerif.Lemmas.PoolF
import PwVerif.Gen.PoolReset
/-!
# C09 — no worker outlives its pool; a pool stays usable across runs and restarts

Lean side (partial): what one run of the `PwVerif.Pool` model leaves behind, consecutive runs (`nextRun`: what `run()`
re-initialises is regenerated from /repo into `Gen/PoolReset.lean`) and the run-in-progress flag. What
`restart_workers()` re-keys and `_close` are Props/C09Registry.lean; the OS facts (child processes gone) are covered by
the real-pool histories of `harness/c09.py` only.
-/
namespace PwVerif.C09
open PwVerif.Pool

/-- **a run leaves nothing behind for the next one.** When a run returns normally no result message is
    left in the pipe of any worker that is still usable, no input is pending and the retry list is
    empty: the next run starts from a clean slate and its results can only be its own. -/
theorem C09_clean_after_return (c : Cfg) (hc : Plain c) (pick : List Nat → Option Nat) (hp : PickOK pick)
    (n : Nat) (src : List Inp) (pre evs : List Ev) (ret : List Inp)
    (h : outcome (runEvents c pick (start c pick n src pre) evs) = .returned ret) :
    let s := runEvents c pick (start c pick n src pre) evs
    s.retries = [] ∧ s.pending = 0 ∧ ∀ x ∈ s.ws, x.closed = false → resIn x.chan = [] ∧ x.inbox = [] := by
  have hinv := inv_reach hc.toRetrying hp n src pre evs
  obtain ⟨_, _, hpend, hretr, _⟩ := outcome_spec h
  refine ⟨hretr, hpend, fun x hx hcl => ?_⟩
  have := (hinv.ws x hx).open_ hcl
  rw [ppw_nil_of_pending hinv.pending hpend x hx] at this
  have h' := List.append_eq_nil_iff.mp this.symm
  exact List.append_eq_nil_iff.mp h'.1

/-- a worker declared dead holds no pending input of the pool (so a later run has nothing to expect from it) -/
theorem C09_closed_holds_nothing (c : Cfg) (hc : Plain c) (pick : List Nat → Option Nat) (hp : PickOK pick)
    (n : Nat) (src : List Inp) (pre evs : List Ev) :
    ∀ x ∈ (runEvents c pick (start c pick n src pre) evs).ws, x.closed = true → x.ppw = [] :=
  fun x hx => ((inv_reach hc hp n src pre evs).ws x hx).closed_

/-- **each run's results correspond to that run's inputs only.** After a run that returned normally, whatever
    happens to the workers in between (`pre`), the next `run()` - whose bookkeeping is re-initialised as
    `Gen.poolReset` (regenerated from /repo) says - returns, if it returns, exactly one result per input of
    *its own* input sequence, under every schedule: nothing of the previous run leaks into it. By induction
    this holds for every later run of a chain of successful runs (`C09_chain`). -/
theorem C09_runs_independent (c : Cfg) (hc : Plain c) (pick : List Nat → Option Nat) (hp : PickOK pick)
    (src0 : List Inp) (s : St) (ret : List Inp) (hinv : Inv src0 [] s) (hret : outcome s = .returned ret)
    (src' : List Inp) (pre evs : List Ev) (ret' : List Inp)
    (h : outcome (runEvents c pick (nextRun c pick Gen.poolReset s src' pre) evs) = .returned ret') :
    ret'.Perm src' :=
  perm_of_inv_returned (inv_runEvents hc hp evs _ (inv_nextRun hc hp hinv hret Gen.poolReset (by decide) src' pre)) h

/-- the regenerated prologue of `Pool.run` re-initialises every bookkeeping field -/
theorem C09_reset_complete : Gen.poolReset.all = true := by decide

/-- a chain of runs: both invariants of the first run carry over to every later one, hence so do all the
    theorems of C07 / C08 (exactly once, PoolError only when every worker is closed, no internal error) -/
theorem C09_chain (c : Cfg) (hc : Plain c) (pick : List Nat → Option Nat) (hp : PickOK pick) (ht : PickTotal pick)
    (src0 : List Inp) (s : St) (ret : List Inp) (hinv : Inv src0 [] s) (hret : outcome s = .returned ret)
    (src' : List Inp) (pre evs : List Ev) :
    Inv src' [] (runEvents c pick (nextRun c pick Gen.poolReset s src' pre) evs) ∧
    K (runEvents c pick (nextRun c pick Gen.poolReset s src' pre) evs) :=
  ⟨inv_runEvents hc hp evs _ (inv_nextRun hc hp hinv hret Gen.poolReset (by decide) src' pre),
   K_runEvents hc.noFn (redispatches_total hc.noFn hp ht) evs _ (K_nextRun hc.noFn Gen.poolReset s src' pre)⟩

/-- without re-initialising the retry list (seeded change C09-C) an input left over by an earlier, failed run is
    served in the next one: the results no longer correspond to that run's inputs -/
theorem C09_counterexample_stale_retries :
    let s1 := runEvents {} pickFirst (start {} pickFirst 1 [7]) [.die 0 true, .poll [0]]       -- PoolError, 7 left in the retry list
    let s1' : St := { s1 with ws := [{}] }                                                       -- restart_workers(): a fresh worker
    let r : ResetCfg := { Gen.poolReset with retries := false }
    outcome (runEvents {} pickFirst (nextRun {} pickFirst r s1' [1]) [.work 0, .poll [0], .work 0, .poll [0]]) = .returned [7, 1] := by
  decide +kernel

/-- **the pool is never left "busy".** However a `run()` ends - the early return for a pool without usable workers, a normal
    return, `PoolError`, any other exception - the run-in-progress flag is clear afterwards, so the next `run()`,
    `restart_workers()`, `close()` and `terminate()` are not refused. (`Gen.poolGuard` is regenerated from the source.) -/
theorem C09_guard_clear (e : RunEnd) : guardAfter Gen.poolGuard e = false := by
  cases e <;> decide

/-- setting the flag in front of the early return (seeded change C09-F): a `run()` on a pool without usable workers leaves the
    pool refusing everything, including `close()` -/
theorem C09_counterexample_guard_before_return :
    guardAfter { Gen.poolGuard with setInTry := false } .noWorkers = true := by decide

end PwVerif.C09
