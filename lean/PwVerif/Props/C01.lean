import PwVerif.Lemmas.Lifecycle
import PwVerif.Gen.RunLoops
/-!
# C01 — a dead worker has one definite, consistent and stable outcome

The child-side programs (`Gen.threadRun`, `Gen.processRun`, `Gen.remoteRun`) are
**regenerated from /repo on every run**; the theorems below are re-checked against them.

Quantifier: every target behaviour × every kind of asynchronous event (exception raised at
the line; real terminate through the control thread; SIGKILL) × every landing point, i.e.
every line event of the run (`k < (lineTrace ..).length` - these *are* all the landing
points of the loop-free one-shot programs; the table is decided completely by kernel
evaluation, not sampled).

The persistent kinds run the same three `_run` functions around a loop; for them the
outcome shape is covered by the correspondence check only (see DESIGN.md), the stream by
C05/C06.
-/
namespace PwVerif.C01
open PwVerif.Py PwVerif.Lifecycle PwVerif.Gen

/-- the observation of the one-shot worker of kind `kd` ended by event `a` at landing point `k` -/
def obsAt (prog : List Stmt) (kd : Kind) (t : Target) (a : Async) (k : Option Nat) : Obs :=
  observe kd (run prog { target := t } [] k a).1

def nEvents (prog : List Stmt) (t : Target) : Nat := (lineTrace prog { target := t } []).length

/-- the two shapes of C01 -/
def Shape (t : Target) (o : Obs) : Bool :=
  o == own t            -- the target's own outcome: (False, None, value) or (True, None, its exception)
  || o == terminated    -- (True, None, WorkerTerminatedError)
  || o == unreported    -- (True, None, None): killed / nothing could be reported

/-- `has_error` is never `None` for a dead thread or process worker - whatever the child did. -/
theorem C01_definite_thread_process (st : St) :
    (observe .thread st).hasError ≠ none ∧ (observe .process st).hasError ≠ none := by
  -- either kind reports `unreported`, or what `decode` makes of the child's message
  constructor <;> simp only [observe] <;> split
  · simp [unreported]
  · exact decode_definite _
  · simp [unreported]
  · exact decode_definite _

/-- **C01 shape, thread.** every target, every event kind, every landing point (and no event) -/
theorem C01_shape_thread :
    ∀ t ∈ Target.all, ∀ a ∈ Async.all,
      Shape t (obsAt threadRun .thread t a none) = true ∧
      ∀ k < nEvents threadRun t, Shape t (obsAt threadRun .thread t a (some k)) = true := by
  decide +kernel

/-- **C01 shape, process.** -/
theorem C01_shape_process :
    ∀ t ∈ Target.all, ∀ a ∈ Async.all,
      Shape t (obsAt processRun .process t a none) = true ∧
      ∀ k < nEvents processRun t, Shape t (obsAt processRun .process t a (some k)) = true := by
  decide +kernel

/-- **C01 shape, remote** (includes: `has_error` is never `None`, which for the remote kind
    depends on what the backend sends - see the `fix:` for BaseException targets). -/
theorem C01_shape_remote :
    ∀ t ∈ Target.all, ∀ a ∈ Async.all,
      Shape t (obsAt remoteRun .remote t a none) = true ∧
      ∀ k < nEvents remoteRun t, Shape t (obsAt remoteRun .remote t a (some k)) = true := by
  decide +kernel

/-- every target / event kind is in the lists the three theorems range over -/
theorem all_targets (t : Target) : t ∈ Target.all := by cases t <;> simp [Target.all]
theorem all_asyncs (a : Async) (h : ∀ d, a ≠ .deferred d) : a ∈ Async.all := by
  cases a with
  | kill => simp [Async.all]
  | raiseWte v => cases v <;> simp [Async.all]
  | deferred d => exact absurd rfl (h d)

/-- **C01 stability (process kind).** Once the first accessor after death has drained the pipe,
    every later accessor returns the same observation - for any pipe content, decodable or
    not - and never touches the pipe again. -/
theorem C01_stable (p : Parent) (n : Nat) :
    ∀ o ∈ (p.get.1).gets n, o = p.get.2 := by
  have : p.get.1.cached = some p.get.2 := by
    unfold Parent.get
    split <;> simp [*]
  rw [gets_cached this]
  exact fun _ => List.eq_of_mem_replicate

/-- the shape holds for whatever the first drain finds, including an undecodable message -/
theorem C01_drain_definite (p : Parent) : (p.get.2).hasError ≠ none ∨ p.cached ≠ none := by
  unfold Parent.get
  split
  · exact .inr (by simp [*])
  · refine .inl ?_
    split
    · simp [unreported]
    · split
      · simp [unreported]
      · exact decode_definite _

/-- non-vacuity: the tables are not empty and contain both shapes -/
example : nEvents threadRun .returns > 10 ∧ nEvents processRun .returns > 20 ∧ nEvents remoteRun .returns > 40 := by
  decide +kernel
example : obsAt threadRun .thread .returns (.raiseWte false) none = own .returns := by decide +kernel
example : ∃ k, obsAt processRun .process .returns (.raiseWte true) (some k) = terminated := ⟨22, by decide +kernel⟩
example : ∃ k, obsAt remoteRun .remote .raisesUser .kill (some k) = unreported := ⟨40, by decide +kernel⟩

end PwVerif.C01
