import PwVerif.Lemmas.Stream
import PwVerif.Model.Lifecycle
import PwVerif.Gen.RunLoops
/-!
# C06 — a persistent result stream is a correct prefix and always ends

* `C06_prefix` (hand-written stream model, unbounded): whatever the iteration and phase at which
  the worker is stopped, and however (gracefully or by SIGKILL), the values obtainable are
  exactly the first `j` expected values, in order, with counters `1..j`.
* `C06_ends`: the message sequence consists of result messages followed by exactly one end
  marker, or (SIGKILL) of result messages only and then EOF - a reader never sees anything
  after the end and never needs to wait for more.
* `C06_generated_*`: the same facts evaluated on the **regenerated** run-loop programs of the
  three persistent kinds for two enqueued items and every landing point of the whole run
  (finite instances decided by the kernel; they tie the per-iteration phases of the stream
  model to the code as it is now).
-/
namespace PwVerif.C06
open PwVerif.Stream

theorem C06_prefix (f : Target) (d : List Nat) (kd : List (Nat × Nat)) (ins : List Enq)
    (crash : Option (Nat × Phase × Stop)) :
    ∃ j, j ≤ ins.length ∧
      items (childRun f d kd ins crash).msgs = (ins.take j).map (value f d kd) ∧
      counters (childRun f d kd ins crash).msgs = (List.range j).map (· + 1) := by
  match crash with
  | none =>
    have ⟨h1, h2, _⟩ := childRun_none f d kd ins
    exact ⟨ins.length, Nat.le_refl _, by rwa [List.take_length], h2⟩
  | some (n, p, how) =>
    obtain ⟨t, c', h, ht⟩ := childLoop_stop f d kd ins 0 n p how
    -- the reader stops at the end marker, or at the end of what a killed child wrote
    have : items t = [] ∧ counters t = [] := by
      rcases ht with ⟨e, rfl⟩ | ⟨rfl, _⟩ <;> exact ⟨rfl, rfl⟩
    refine ⟨min n ins.length, Nat.min_le_right .., ?_, ?_⟩
    · simp [childRun, h, items_sent, this]
    · simp [childRun, h, counters_sent, this, List.range'_eq_map_range, Nat.add_comm]

theorem C06_ends (f : Target) (d : List Nat) (kd : List (Nat × Nat)) (ins : List Enq) (c : Nat)
    (crash : Option (Nat × Phase × Stop)) :
    ∃ pre, (∀ m ∈ pre, ∃ k v, m = Msg.item k v) ∧
      ((∃ e, (childLoop f d kd ins c crash).msgs = pre ++ [.endMarker e]) ∨
       ((childLoop f d kd ins c crash).msgs = pre ∧ ∃ j p, crash = some (j, p, .killed))) ∧
      (childLoop f d kd ins c crash).eof = true := by
  match crash with
  | none => exact ⟨_, sent_items f d kd c ins, .inl ⟨_, by rw [childLoop_none]⟩, by rw [childLoop_none]⟩
  | some (n, p, how) =>
    obtain ⟨t, c', h, ht⟩ := childLoop_stop f d kd ins c n p how
    refine ⟨_, sent_items f d kd c (ins.take n), ?_, by rw [h]⟩
    rcases ht with ⟨e, rfl⟩ | ⟨rfl, rfl⟩
    · exact .inl ⟨e, by rw [h]⟩
    · exact .inr ⟨by rw [h, List.append_nil], n, p, rfl⟩

/-! ### the regenerated loop programs, two items then the release marker -/
open PwVerif.Py PwVerif.Gen

def resultsOf (prog : List Stmt) (a : Async) (k : Option Nat) : List Py.Msg :=
  (run prog {} [.item, .item, .release] k a).1.results

/-- item messages come first with counters 1, 2, ...; at most one end marker and nothing after it -/
def wellFormed : List Py.Msg → Nat → Bool
  | [], _ => true
  | .item c :: rest, n => c == n + 1 && wellFormed rest (n + 1)
  | [.endMarker _], _ => true
  | _, _ => false

def generatedOK (prog : List Stmt) : Prop :=
  ∀ a ∈ Lifecycle.Async.all,
    wellFormed (resultsOf prog a none) 0 = true ∧
    ∀ k < (lineTrace prog {} [.item, .item, .release]).length, wellFormed (resultsOf prog a (some k)) 0 = true

theorem C06_generated_thread : generatedOK pthreadRun := by unfold generatedOK; decide +kernel
theorem C06_generated_process : generatedOK pprocessRun := by unfold generatedOK; decide +kernel
theorem C06_generated_remote : generatedOK premoteRun := by unfold generatedOK; decide +kernel

def itrace (prog : List Stmt) : List Nat := lineTrace prog {} [.item, .item, .release]
def reachable (prog : List Stmt) (start k : Nat) : Bool := k < (itrace prog).length && (itrace prog).idxOf start < k
def hasEnd (ms : List Py.Msg) : Bool := ms.any (fun m => match m with | .endMarker _ => true | _ => false)

/-- graceful endings write the end marker: a terminate landing at any reachable point outside of the
    `finally` blocks of the run loop (where `_cleanup` itself runs) still ends the stream -/
def gracefulEnds (prog : List Stmt) (start : Nat) (a : Async) : Prop :=
  ∀ k < (itrace prog).length, reachable prog start k = true →
    (finallyLinesL prog).contains (((itrace prog)[k]?).getD 0) = false →
    hasEnd (resultsOf prog a (some k)) = true

theorem C06_graceful_ends_thread : gracefulEnds pthreadRun pthreadRunStart (.raiseWte false) := by unfold gracefulEnds; decide +kernel
theorem C06_graceful_ends_process : gracefulEnds pprocessRun pprocessRunStart (.raiseWte true) := by unfold gracefulEnds; decide +kernel

/-- Without the exclusion the statement is false for the thread and process kinds: an exception landing
    inside `_cleanup` (before it wrote the marker) loses the end marker. A process worker's pipe then still
    delivers EOF; a thread worker's `queue.Queue` has no EOF - a consumer blocked in `results_iter()`
    before the death stays blocked (known finding). -/
def gracefulEndsFull (prog : List Stmt) (start : Nat) (a : Async) : Prop :=
  ∀ k < (itrace prog).length, reachable prog start k = true → hasEnd (resultsOf prog a (some k)) = true

theorem C06_counterexample_thread : ¬ gracefulEndsFull pthreadRun pthreadRunStart (.raiseWte false) := by
  unfold gracefulEndsFull; decide +kernel
/-- for the remote kind the request can no longer be delivered once the backend reached its cleanup
    (its control thread was released before): the full statement holds -/
theorem C06_graceful_ends_full_remote : gracefulEndsFull premoteRun premoteRunStart (.raiseWte true) := by
  unfold gracefulEndsFull; decide +kernel
theorem C06_graceful_ends_remote : gracefulEnds premoteRun premoteRunStart (.raiseWte true) :=
  fun k hk hr _ => C06_graceful_ends_full_remote k hk hr

example : resultsOf pthreadRun .kill none = [.item 1, .item 2, .endMarker 2] := by decide +kernel

end PwVerif.C06
