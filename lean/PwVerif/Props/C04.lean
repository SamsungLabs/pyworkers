import PwVerif.Lemmas.Blocking
import PwVerif.Gen.Blocking
/-!
# C04 — wait/terminate are bounded, truthful, idempotent

`Gen/Blocking.lean` is regenerated from /repo on every run (T-block): for each parent-side
`wait` / `terminate` the blocking calls in source order with what bounds them, the guard that
derives the remote timeout, the shape of the returned value, the negative-timeout check.

* `C04_bounded_*`: every blocking call is bounded by the timeout, guarded by a bounded poll,
  or is a reply of the server's control thread; `C04_factor`: at most three timeout-bounded
  waits in a row on the caller's side (the "small multiple").
* `C04_remote_timeout`: for every timeout (including 0) and every remote timeout the server is
  asked to wait a finite time not longer than the caller's timeout; the generated guard is the
  one this holds for (`C04_guard_*`). `C04_truthy_guard_counterexample` shows what the
  `if timeout:` variant would do at 0.
* `C04_truthful_*`: the value returned is `True` or the negation of the liveness read last.
* `C04_idempotent`: on a dead or never-run worker every sequence of calls returns at once with
  `True` (`False` for is_alive) and leaves the flags unchanged - any length, any order.

Wall-clock durations, signal delivery and the kernel are not in the model: they are what
`harness/c04.py` measures on real workers (uncooperative, sleeping, GIL-holding, stopped).
-/
namespace PwVerif.C04
open PwVerif.Blocking PwVerif.Gen

theorem C04_bounded_thread : bounded threadWait = true ∧ bounded threadTerminate = true ∧ bounded pthreadWait = true := by decide
theorem C04_bounded_process : bounded processWait = true ∧ bounded processTerminate = true ∧ bounded pprocessWait = true := by decide
theorem C04_bounded_remote : bounded remoteWait = true ∧ bounded remoteTerminate = true := by decide

/-- no method waits for more than three timeouts on the caller's side of any one branch
    (`remoteTerminate` lists the server-side branch - three joins - and the parent-side one) -/
theorem C04_factor :
    factor threadWait ≤ 1 ∧ factor threadTerminate ≤ 1 ∧ factor processWait ≤ 1 ∧ factor processTerminate ≤ 3 ∧
    factor remoteWait ≤ 2 ∧ factor remoteTerminate ≤ 4 := by decide

theorem C04_guard_wait : remoteWait.guard = .isNotNone := by decide
theorem C04_guard_terminate : remoteTerminate.guard = .isNotNone := by decide

theorem C04_remote_timeout (t : Nat) (remote : Option Nat) :
    ∃ y, normRemote .isNotNone (some t) remote = some y ∧ y ≤ t := by
  cases remote with
  | none => exact ⟨t, rfl, Nat.le_refl _⟩
  | some r => exact ⟨min r t, rfl, Nat.min_le_right _ _⟩

/-- what a truthiness test would do: `wait(0)` asks the server to wait without bound -/
theorem C04_truthy_guard_counterexample : normRemote .truthy (some 0) none = none := rfl

theorem C04_truthful :
    threadWait.returnsNotAlive = true ∧ threadTerminate.returnsNotAlive = true ∧ processWait.returnsNotAlive = true ∧
    processTerminate.returnsNotAlive = true ∧ remoteWait.returnsNotAlive = true ∧ remoteTerminate.returnsNotAlive = true := by
  decide

theorem C04_negative_checked :
    threadTerminate.checksNegative = true ∧ processWait.checksNegative = true ∧ processTerminate.checksNegative = true ∧
    remoteWait.checksNegative = true ∧ remoteTerminate.checksNegative = true := by decide

/-- (`h` is not needed: `callDead` reads no flag, `Lemmas/Blocking.lean`) -/
theorem C04_idempotent (f : Flags) (cs : List Call) (h : over f = true) :
    runCalls f cs = cs.map (fun c => c != .isAlive) :=
  runCalls_eq f cs

example : over ⟨false, true⟩ = true ∧ over ⟨true, true⟩ = true := by decide
example : runCalls ⟨true, true⟩ [.wait, .isAlive, .terminate, .close] = [true, false, true, true] := by decide

end PwVerif.C04
