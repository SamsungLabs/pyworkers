import PwVerif.Model.Consumer
import PwVerif.Gen.Consumer
/-!
# C05 / C06, continued — the owner's reads (`PersistentWorker.next_result`, hence `results_iter` and `call`)

The condition that selects the non-blocking read is regenerated from /repo (`Gen.consumerCfg`).

* `C05_read_never_ends_early`: while the child is alive (it still has accepted inputs to process, or has not
  yet written its end-of-stream message) a read never reports the end of the stream - it returns the next
  value or waits; in particular `close()` / a timed-out `wait()` do not make reads give up (C05: the k-th
  value obtained is the k-th expected one, the stream ends exactly once).
* `C06_read_never_blocks_when_dead`: once the child is dead a read never waits (C06: `next_result()` raises
  `queue.Empty`, `results_iter()` stops).
* `C05_reads_follow_stream`: reading whatever is buffered, in order, yields the buffered values up to the end
  marker, for any buffer - so with `C05_stream` the k-th read is the k-th expected value.
-/
namespace PwVerif.C05
open PwVerif.Consumer

theorem C05_read_never_ends_early (closed : Bool) (pipe : List M) (h : pipe.head? ≠ some .endMarker) :
    nextResult Gen.consumerCfg closed true pipe ≠ .empty := by
  cases pipe with
  | nil => cases closed <;> decide
  | cons m rest =>
    cases m with
    | item v => simp [nextResult]
    | endMarker => simp at h

theorem C06_read_never_blocks_when_dead (closed : Bool) (pipe : List M) :
    nextResult Gen.consumerCfg closed false pipe ≠ .waits := by
  cases pipe with
  | nil => cases closed <;> decide
  | cons m rest => cases m <;> simp [nextResult]

/-- the values a sequence of reads obtains from a buffer before the stream is reported ended -/
def drain (cfg : Cfg) (closed alive : Bool) : List M → List Nat
  | [] => []
  | m :: rest =>
    match nextResult cfg closed alive (m :: rest) with
    | .value v => v :: drain cfg closed alive rest
    | _ => []

def values : List M → List Nat
  | [] => []
  | .item v :: rest => v :: values rest
  | .endMarker :: _ => []

theorem C05_reads_follow_stream (cfg : Cfg) (closed alive : Bool) (pipe : List M) :
    drain cfg closed alive pipe = values pipe := by
  induction pipe with
  | nil => rfl
  | cons m rest ih => cases m <;> simp [drain, values, nextResult, ih]

/-- the seeded change C05-D (`if self._closed or not self.is_alive()`): a read right after `close()` reports the
    end of the stream although the busy child has not delivered anything yet -/
theorem C05_counterexample_closed_nowait :
    nextResult { Gen.consumerCfg with nowaitWhenClosed := true } true true [] = .empty := by decide

example : nextResult Gen.consumerCfg true true [] = .waits := by decide
example : nextResult Gen.consumerCfg false false [] = .empty := by decide

end PwVerif.C05
