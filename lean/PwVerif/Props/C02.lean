import PwVerif.Model.Lifecycle
import PwVerif.Model.Create
import PwVerif.Gen.RunLoops
/-!
# C02 — all worker kinds compute exactly what a direct call would

* `C02_direct_*` (regenerated programs, undisturbed run): for a target that returns / raises an
  `Exception`, what the parent observes after `wait()` is exactly the direct call's outcome;
  `C02_kinds_agree`: hence the three kinds agree with each other.
* `C02_notrun`, `C02_create_table`: the never-run rule and the factory's class table.
* result size: `C02_delivered_thread_remote` for every size; for the process kind the statement
  "every size is delivered" is **false** (`C02_process_counterexample`, known finding: a result
  larger than the pipe buffer deadlocks `wait()`); `C02_process_partial` under `size ≤ cap`.
-/
namespace PwVerif.C02
open PwVerif.Py PwVerif.Lifecycle PwVerif.Gen PwVerif.Create

def obs (prog : List Stmt) (kd : Lifecycle.Kind) (t : Target) : Obs :=
  observe kd (run prog { target := t } [] none .kill).1

theorem C02_direct_thread : ∀ t ∈ [Target.returns, Target.raisesUser], obs threadRun .thread t = own t := by decide +kernel
theorem C02_direct_process : ∀ t ∈ [Target.returns, Target.raisesUser], obs processRun .process t = own t := by decide +kernel
theorem C02_direct_remote : ∀ t ∈ [Target.returns, Target.raisesUser], obs remoteRun .remote t = own t := by decide +kernel

theorem C02_kinds_agree : ∀ t ∈ [Target.returns, Target.raisesUser],
    obs threadRun .thread t = obs processRun .process t ∧ obs processRun .process t = obs remoteRun .remote t := by
  intro t ht
  rw [C02_direct_thread t ht, C02_direct_process t ht, C02_direct_remote t ht]
  exact ⟨rfl, rfl⟩

/-- a worker with `run=False`, or `run=None` and a falsy target, is never started -/
theorem C02_notrun (run : Option Bool) (truthy : Bool) :
    willRun run truthy = false ↔ (run = some false ∨ (run = none ∧ truthy = false)) := by
  cases run <;> simp [willRun]

theorem C02_create_table :
    [className .thread false, className .process false, className .remote false,
     className .thread true, className .process true, className .remote true]
    = ["ThreadWorker", "ProcessWorker", "RemoteWorker",
       "PersistentThreadWorker", "PersistentProcessWorker", "PersistentRemoteWorker"] := by decide

theorem C02_delivered_thread_remote (size cap : Nat) :
    delivered .thread size cap = true ∧ delivered .remote size cap = true := ⟨rfl, rfl⟩

/-- the full statement for the process kind -/
def C02_process_full : Prop := ∀ size cap, delivered .process size cap = true

theorem C02_process_counterexample : ¬ C02_process_full := by
  intro h
  simpa [delivered] using h 1 0

theorem C02_process_partial (size cap : Nat) (h : size ≤ cap) : delivered .process size cap = true := by
  simp [delivered, h]

example : own .returns ≠ own .raisesUser := by decide

end PwVerif.C02
