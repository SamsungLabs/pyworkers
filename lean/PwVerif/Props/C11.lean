import PwVerif.Lemmas.Server
import PwVerif.Gen.ServerLoop
/-!
# C11 — the remote server survives every client failure

`Gen.serverLoop` is regenerated from /repo (T-srv): the client-facing steps of one iteration of
`RemoteServer.run`'s accept loop with the policy the enclosing `try` blocks apply to a
`ConnectionClosedError` raised there.

* `C11_policy`: every step that talks to the client is covered by a handler that goes on with the
  next client (`continue`): none is uncaught, re-raised, or falls through into code that needs
  the failed step's result.
* `C11_survives`: under that policy, for **every sequence of client sessions**, each vanishing
  at any step (or completing), the server is still accepting afterwards - induction over the
  session list. `C11_survives_generated` instantiates it with the regenerated loop.
* `C11_skipped_requests_closed`: the two kinds of request the server skips (None header, unknown
  context) close the client's socket first (used by C20).

What happens *inside* a step (the pickled worker's `__setstate__` doing the control handshake,
the context helper process) is exercised on a real server by `harness/c11.py`: every recorded
request stream cut at byte offsets with FIN/RST and every step of the control handshake.

`clientFacing`, `wellFormed`: `Lemmas/Server.lean`.
-/
namespace PwVerif.C11
open PwVerif.Server PwVerif.Gen

theorem C11_policy : ∀ s ∈ serverLoop, clientFacing s = true → s.policy = .continue := by decide

theorem C11_survives (loop : List Step) (sessions : List Session)
    (hp : ∀ s ∈ loop, clientFacing s = true → s.policy = .continue)
    (hw : ∀ x ∈ sessions, wellFormed loop x = true) :
    runSessions loop .accepting sessions = .accepting := by
  induction sessions with
  | nil => rfl
  | cons x xs ih =>
    simp only [runSessions]
    rw [handle_accepting loop x hp (hw x (by simp))]
    exact ih (fun y hy => hw y (by simp [hy]))

theorem C11_survives_generated (sessions : List Session)
    (hw : ∀ x ∈ sessions, wellFormed serverLoop x = true) :
    runSessions serverLoop .accepting sessions = .accepting :=
  C11_survives serverLoop sessions C11_policy hw

/-- a well-formed session after any prefix of faulty ones is served (the loop is accepting) -/
theorem C11_serves_after (faulty : List Session) (hw : ∀ x ∈ faulty, wellFormed serverLoop x = true) :
    handle serverLoop (runSessions serverLoop .accepting faulty) ⟨none⟩ = .accepting := by
  rw [C11_survives_generated faulty hw]; rfl

theorem C11_skipped_requests_closed : skippedRequestsClosed = 2 := by decide

/-- what an unprotected step would mean (the code before the fix: the header read was not covered) -/
example : runSessions [⟨.accept, 1, .uncaught⟩, ⟨.recv, 2, .uncaught⟩] .accepting [⟨some 1⟩, ⟨none⟩] = .dead := by decide
example : (serverLoop.filter clientFacing).length ≥ 4 := by decide

end PwVerif.C11
