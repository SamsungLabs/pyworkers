import PwVerif.Lemmas.Accessor
import PwVerif.Gen.Accessor
/-!
# C01 / C02 — reading the outcome of a thread worker while its work is finishing

Model: `PwVerif.Accessor` (hand-written); the order of the reads in `ThreadWorker._get_result` is regenerated from
`/repo` (`Gen.threadGetResult`, T-acc). Quantifiers: every order of reads with the liveness read before the first read
of `_result` (any length), every sequence of phases the child can be seen in by the successive reads (every
interleaving of "outcome recorded" and "thread ended" with the reads), every later moment at which the value is returned.

* `C01_accessor_sound`: for a child that records its outcome the accessor never fabricates one - whatever the
  interleaving - and it returns `None` only if the child was still running at the last read;
* `C01_accessor_definite`: a child that died without recording an outcome is reported with the fabricated outcome
  `(False, None)` once it is dead (the "definite outcome" clause);
* `C01_accessor_generated`: the order read from `/repo` has the liveness read first;
* `C01_accessor_counterexample_result_first`: with `_result` read first (the code before the repair e7c2627) a child
  that records its outcome and ends between the two reads loses it.
-/
namespace PwVerif.C01
open PwVerif.Accessor

theorem C01_accessor_sound (order : List Read) (ps : List Phase) (last : Phase) (ha : aliveFirst order = true)
    (hm : monotone ps = true) :
    getResult true order ps last ≠ .fabricated ∧ (getResult true order ps last = .none → last = .running) := by
  unfold getResult
  rw [holds_false_of_aliveFirst order ps ha hm]
  cases last <;> simp [resultIsNone]

theorem C01_accessor_definite (order : List Read) (ps : List Phase) (last : Phase) (hl : ps.length = order.length)
    (hd : ∀ p ∈ ps, p = .dead) : getResult false order ps last = .fabricated := by
  simp [getResult, holds_unrecorded_of_all_dead order ps hd (Nat.le_of_eq hl.symm)]

theorem C01_accessor_generated : aliveFirst Gen.threadGetResult = true := by decide

theorem C01_accessor_sound_generated (ps : List Phase) (last : Phase) (hm : monotone ps = true) :
    getResult true Gen.threadGetResult ps last ≠ .fabricated :=
  (C01_accessor_sound Gen.threadGetResult ps last C01_accessor_generated hm).1

theorem C01_accessor_counterexample_result_first :
    monotone [.running, .dead, .dead] = true ∧
    getResult true [.resultIsNone, .started, .notAlive] [.running, .dead, .dead] .dead = .fabricated := by decide

/-- non-vacuity: with the liveness read first the same interleaving returns the work's own outcome -/
example : getResult true Gen.threadGetResult [.running, .dead, .dead] .dead = .own := by decide
example : getResult true Gen.threadGetResult [.running, .running, .running] .running = .none := by decide

end PwVerif.C01
