import PwVerif.Lemmas.LoopQuiet
import PwVerif.Lemmas.PyAround
/-!
# C05 on the regenerated programs, for an unbounded number of items

`Props/C05.lean` proves the stream clauses of C05 for the hand-written `Model/Stream.lean`. Here the same facts are
proved about the **regenerated** child-side programs of the three persistent kinds (`Gen/RunLoops.lean`, translated
from `/repo` on every run), for **every** number `n` of enqueued items - not for two items as in
`C06_generated_*`: an undisturbed run that receives `n` items and then the release marker (what `close()` /
`wait()` send)

* ends normally,
* has written exactly `n` result messages with counters `1..n`, in order, followed by exactly one end marker that
  carries `n`,
* reports success with the counter equal to `n` (`result == number of enqueues == number of results`).

All three are `Py.delivered` (`Lemmas/PyAround.lean`) at the undisturbed summary of the program's loop
(`PKind.loop_quiet`, `Lemmas/LoopQuiet.lean`); how: DESIGN 0.6. No line number of the generated code is quoted, so
renumbering the source does not touch the proofs. `Returns` (the environment of the theorems): `Lemmas/LoopQuiet.lean`.
-/
namespace PwVerif.C05
open PwVerif.Py PwVerif.Gen

/-- what an undisturbed run on `n` items and the release marker leaves behind -/
structure Delivered (n : Nat) (r : St × Out) : Prop where
  normal : r.2 = .normal
  results : r.1.results = (List.range n).map (fun k => Msg.item (k + 1)) ++ [.endMarker n]
  counter : r.1.counter = n
  consumed : r.1.inputs = []

/-- from the abstract run to `Delivered`, for the only environment `Returns` allows -/
theorem delivered_of_quietOK {prog : List Stmt} {W : Stmt} (hW : onlyLoopL W prog)
    (hQ : ∀ n, ∃ F, QuietSummary {} n F W) {chk : St → Bool} (ht : quietOK {} prog chk = true)
    {env : Env} (he : Returns env) (n : Nat) :
    ∃ F0 b, chk b = true ∧ ∀ F, F0 ≤ F →
      Delivered n (execBlock env F { inputs := List.replicate n .item ++ [.release] } prog) ∧
      (execBlock env F { inputs := List.replicate n .item ++ [.release] } prog).1.result = b.result ∧
      (execBlock env F { inputs := List.replicate n .item ++ [.release] } prog).1.comms = b.comms := by
  obtain rfl : env = {} := by obtain ⟨h1, h2, h3⟩ := he; cases env; simp_all
  obtain ⟨F0, a', b, hchk, hres, hcomms, e1, e2, e3, hrun⟩ := delivered hW hQ ht n
  refine ⟨F0, b, hchk, fun F hF => ?_⟩
  have := hrun F hF
  unfold runOn at this
  rw [this]
  exact ⟨⟨rfl, by rw [e1, itemsFrom_eq]; simp, e2, e3⟩, hres, hcomms⟩

/-- **C05 on the regenerated `PersistentThreadWorker` program, any number of items.** -/
theorem C05_generated_unbounded_thread (env : Env) (he : Returns env) (n : Nat) :
    ∃ F0, ∀ F, F0 ≤ F →
      Delivered n (execBlock env F { inputs := List.replicate n .item ++ [.release] } pthreadRun) ∧
      (execBlock env F { inputs := List.replicate n .item ++ [.release] } pthreadRun).1.result = some none := by
  obtain ⟨F0, b, hchk, h⟩ := delivered_of_quietOK (prog := pthreadRun) (PKind.loop_only .thread)
    (PKind.loop_quiet .thread {} ⟨rfl, rfl, rfl⟩) (chk := fun st => st.result == some none) (by decide +kernel) he n
  simp only [beq_iff_eq] at hchk
  exact ⟨F0, fun F hF => ⟨(h F hF).1, by rw [(h F hF).2.1, hchk]⟩⟩

/-- **C05 on the regenerated `PersistentProcessWorker` program, any number of items**: the final message to the
    parent is `((True, counter), user_state)`. -/
theorem C05_generated_unbounded_process (env : Env) (he : Returns env) (n : Nat) :
    ∃ F0, ∀ F, F0 ≤ F →
      Delivered n (execBlock env F { inputs := List.replicate n .item ++ [.release] } pprocessRun) ∧
      (execBlock env F { inputs := List.replicate n .item ++ [.release] } pprocessRun).1.comms = [.info, .final none 0] := by
  obtain ⟨F0, b, hchk, h⟩ := delivered_of_quietOK (prog := pprocessRun) (PKind.loop_only .process)
    (PKind.loop_quiet .process {} ⟨rfl, rfl, rfl⟩) (chk := fun st => st.comms == [.info, .final none 0]) (by decide +kernel) he n
  simp only [beq_iff_eq] at hchk
  exact ⟨F0, fun F hF => ⟨(h F hF).1, by rw [(h F hF).2.2, hchk]⟩⟩

/-- **C05 on the regenerated `PersistentRemoteWorker` backend, any number of items**: the backend sends
    `(True, counter)` and then the user state. -/
theorem C05_generated_unbounded_remote (env : Env) (he : Returns env) (n : Nat) :
    ∃ F0, ∀ F, F0 ≤ F →
      Delivered n (execBlock env F { inputs := List.replicate n .item ++ [.release] } premoteRun) ∧
      (execBlock env F { inputs := List.replicate n .item ++ [.release] } premoteRun).1.comms =
        [.info, .final none 0, .userState 0] := by
  obtain ⟨F0, b, hchk, h⟩ := delivered_of_quietOK (prog := premoteRun) (PKind.loop_only .remote)
    (PKind.loop_quiet .remote {} ⟨rfl, rfl, rfl⟩) (chk := fun st => st.comms == [.info, .final none 0, .userState 0]) (by decide +kernel) he n
  simp only [beq_iff_eq] at hchk
  exact ⟨F0, fun F hF => ⟨(h F hF).1, by rw [(h F hF).2.2, hchk]⟩⟩

/-- non-vacuity / cross-check with the fixed-fuel `run` used by the finite tables: three items -/
example : (run pthreadRun {} [.item, .item, .item, .release] none .kill).1.results =
    [.item 1, .item 2, .item 3, .endMarker 3] := by decide +kernel

end PwVerif.C05
