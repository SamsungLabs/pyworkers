import PwVerif.Model.Py
/-
Family L, parent side — what the public accessors report about a dead worker
(`worker.py:243-289` decode of `_get_result()`; `ThreadWorker._get_result`,
`ProcessWorker._get_result`, `RemoteWorker._fetch_results`).

Hand-written; tied to the code by `harness/inject.py` (the observation computed here from the
child's final state is compared with `has_error` / `result` / `error` of the real worker).
-/
namespace PwVerif.Lifecycle
open PwVerif.Py

inductive Kind where
  | thread | process | remote
deriving Repr, DecidableEq

/-- `(has_error, error)`; `result` is the value iff `has_error = some false` -/
structure Obs where
  hasError : Option Bool
  error : Option Exc
deriving Repr, DecidableEq

def decode (r : Option Exc) : Obs :=
  match r with
  | none => ⟨some false, none⟩          -- (True, value)
  | some .nothing => ⟨some true, none⟩  -- (False, None)
  | some e => ⟨some true, some e⟩       -- (False, e)

/-- `(False, None)`: dead without a reportable outcome -/
def unreported : Obs := ⟨some true, none⟩

def lastFinal : List Msg → Option (Option Exc)
  | [] => none
  | .final r _ :: rest => (match lastFinal rest with | some r' => some r' | none => some r)
  | _ :: rest => lastFinal rest

/-- user state carried by the last final message of a process worker -/
def lastFinalState : List Msg → Option Nat
  | [] => none
  | .final _ u :: rest => (match lastFinalState rest with | some u' => some u' | none => some u)
  | _ :: rest => lastFinalState rest

/-- remote: the user-state message that follows the result message -/
def sockState : List Msg → Option Nat
  | [] => none
  | .userState v :: _ => some v
  | _ :: rest => sockState rest

def firstSock : List Msg → Option Msg
  | [] => none
  | .final r u :: _ => some (.final r u)
  | .noneResult :: _ => some .noneResult
  | _ :: rest => firstSock rest

/-- what the parent sees once the worker is dead -/
def observe (k : Kind) (st : St) : Obs :=
  match k with
  | .thread =>
    match st.result with
    | none => unreported                 -- post-mortem fallback of ThreadWorker._get_result
    | some r => decode r
  | .process =>
    match lastFinal st.comms with
    | none => unreported                 -- drain loop found nothing: (False, None)
    | some r => decode r
  | .remote =>
    match firstSock st.comms with
    | none => unreported                 -- connection closed before a result: (False, None)
    | some (.final r _) => decode r
    | some _ => ⟨none, none⟩             -- the child sent `None` as its result: `_result` stays None

/-- the parent's `user_state` after the worker's death (0 = still the initial value) -/
def parentState (k : Kind) (st : St) : Nat :=
  match k with
  | .thread => st.ustate                       -- shared memory
  | .process => (lastFinalState st.comms).getD 0
  | .remote =>
    match firstSock st.comms with
    | some (.final _ _) => (sockState st.comms).getD 0
    | _ => 0

/-- the outcome a direct call of the target would give -/
def own (t : Target) : Obs :=
  match t with
  | .returns => ⟨some false, none⟩
  | .raisesUser => ⟨some true, some .user⟩
  | .raisesBase => ⟨some true, some .base⟩

def terminated : Obs := ⟨some true, some .wte⟩

end PwVerif.Lifecycle

namespace PwVerif.Lifecycle
open PwVerif.Py

/-! ### parent-side cache of `ProcessWorker._get_result` (post mortem)

`_result` is `none` until the first accessor after death drains the pipe; a message that
cannot be received or rebuilt (`undecodable`) counts as "nothing reported". -/

structure Parent where
  cached : Option Obs := none
  pipe : List Msg := []            -- what is still unread in `_comms` (after the runtime info)
  undecodable : Bool := false      -- the final message cannot be rebuilt on this side / is truncated
deriving Repr, DecidableEq

/-- one accessor call (`has_error` / `result` / `error`) on a dead process worker -/
def Parent.get (p : Parent) : Parent × Obs :=
  match p.cached with
  | some o => (p, o)
  | none =>
    let o := if p.undecodable then unreported else
      match lastFinal p.pipe with
      | none => unreported
      | some r => decode r
    ({ p with cached := some o, pipe := [] }, o)

def Parent.gets : Parent → Nat → List Obs
  | _, 0 => []
  | p, n + 1 => let (p', o) := p.get; o :: p'.gets n

def Target.all : List Target := [.returns, .raisesUser, .raisesBase]
def Async.all : List Async := [.raiseWte false, .raiseWte true, .kill]


/-- Evaluate `check undisturbedState disturbedState` for **every** reachable arrival point `k` (line events
    after the statement at line `start`, from which on the parent can call `terminate()`) and **every**
    delay `d ≤ number of line events after k` of a deferred delivery (a larger delay means the exception is
    never raised in the working thread, which `d = number of remaining events` already gives). -/
def deferredAll (prog : List Stmt) (env : Env) (inputs : List Input) (start : Nat) (check : St → St → Bool) : Bool :=
  match run prog env inputs none .kill with
  | (st0, _) =>
    let tr := st0.trace
    let first := tr.idxOf start + 1
    (List.range (tr.length - first)).all fun i =>
      (List.range (tr.length - (first + i) + 1)).all fun d =>
        match run prog env inputs (some (first + i)) (.deferred d) with
        | (st, _) => check st0 st

end PwVerif.Lifecycle
